import CovfieModel.Model.Algebra
import CovfieModel.Model.Conc
import CovfieModel.Model.Config
import CovfieModel.Model.Convert
import CovfieModel.Model.Heap
import CovfieModel.Model.IO
import CovfieModel.Model.Interp
import CovfieModel.Model.Kinds
import CovfieModel.Model.Layout
import CovfieModel.Model.Narrow
import CovfieModel.Model.NdMap
import CovfieModel.Model.Numeric
import CovfieModel.Model.Perm
import CovfieModel.Model.Scalar
import CovfieModel.Model.Stack
import CovfieModel.Model.LinearW
import CovfieModel.Model.Storage
import CovfieModel.Lemmas.Bits
import CovfieModel.Lemmas.Heap
import CovfieModel.Lemmas.Hilbert
import CovfieModel.Lemmas.IO
import CovfieModel.Lemmas.IOReject
import CovfieModel.Lemmas.Imp
import CovfieModel.Lemmas.ImpAttr
import CovfieModel.Lemmas.Loop
import CovfieModel.Lemmas.Morton
import CovfieModel.Lemmas.NdMap
import CovfieModel.Lemmas.Numeric
import CovfieModel.Lemmas.Perm
import CovfieModel.Lemmas.RImp
import CovfieModel.Lemmas.Radix
import CovfieModel.Lemmas.Stack
import CovfieModel.Lemmas.Storage
import CovfieModel.Lemmas.Strided
import CovfieModel.Lemmas.WidenBits
import CovfieModel.Props.C01
import CovfieModel.Props.C02
import CovfieModel.Props.C03
import CovfieModel.Props.C03Width
import CovfieModel.Props.C03Round
import CovfieModel.Props.C04
import CovfieModel.Props.C05
import CovfieModel.Props.C05Stack
import CovfieModel.Props.C06
import CovfieModel.Props.C07
import CovfieModel.Props.C07Narrow
import CovfieModel.Props.C07Grammar
import CovfieModel.Props.C07Widen
import CovfieModel.Props.C07NarrowWiden
import CovfieModel.Props.C07NarrowBits
import CovfieModel.Props.C07Nearest
import CovfieModel.Props.C07Cross
import CovfieModel.Props.C08
import CovfieModel.Props.C08Width
import CovfieModel.Props.C09
import CovfieModel.Props.C09Round
import CovfieModel.Props.C09Chain
import CovfieModel.Props.C10
import CovfieModel.Props.C11
import CovfieModel.Props.C12
import CovfieModel.Props.C12View
import CovfieModel.Props.C12Indep
import CovfieModel.Props.C13
import CovfieModel.Props.C14
import CovfieModel.Props.C15
import CovfieModel.Props.C15Interp
import CovfieModel.Props.C16
import CovfieModel.Props.C16Footprint
import CovfieModel.Props.C17
import CovfieModel.Props.C18
import CovfieModel.Props.C19
import CovfieModel.Props.C19Order
import CovfieModel.Props.C20
import CovfieModel.Props.Translated
import CovfieModel.Props.TranslatedHilbert
import CovfieModel.Props.TranslatedLin
import CovfieModel.Props.TranslatedAlg
import CovfieModel.Props.TranslatedOwn
import CovfieModel.Props.TranslatedIO
import CovfieModel.Props.TranslatedArrIO
import CovfieModel.Props.TranslatedTmpl
import CovfieModel.Props.TranslatedNd
import CovfieModel.Props.CodeAsWritten
import CovfieModel.Props.CodeAsWrittenLayout
import CovfieModel.Props.CodeAsWrittenCompose
import CovfieModel.Props.CodeAsWrittenLinear
import CovfieModel.Props.CodeAsWrittenIO
import CovfieModel.Props.CodeAsWrittenStackIO
import CovfieModel.Props.TranslatedBin
import CovfieModel.Props.TranslatedCompose
import CovfieModel.Props.TranslatedLinGen
import CovfieModel.Props.TranslatedStridedCopy
