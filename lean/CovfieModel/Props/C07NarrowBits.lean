import CovfieModel.Props.C07Widen
import CovfieModel.Props.C07Narrow
/-! # C07 (narrowing at bit level) — `static_cast<float>(double)` on bit patterns denotes exactly the
    (significand, exponent) rounding `narrowME`, which is within half a float quantum of the double (ties to even). -/
namespace Covfie.C07
open Covfie

theorem decodeF32_signed (s x : Nat) (hs : s < 2) (hx : x < 0x7f800000) :
    decodeF32 (s * 2^31 + x) = .fin (if s = 1 then -(((dec32 x).1 : ℚ) * pow2 (dec32 x).2) else (dec32 x).1 * pow2 (dec32 x).2) := by
  obtain ⟨h1, h2, h3⟩ := bit_top 23 8 31 s x rfl (by omega)
  rw [decodeF32_finite _ (by rw [h2]; omega), h3, Nat.mod_eq_of_lt hs]
  simp only [dec32, h1, h2]

/-- the hypotheses are what `narrowME` can produce: a subnormal, a normal, or the carry `M' = 2^24` into the next binade -/
theorem decodeF32_pack32 (s M' : Nat) (E' : Int) (hs : s < 2) (hM : M' ≤ 2^24) (hE : -149 ≤ E') (hc : E' = -149 ∨ 2^23 ≤ M')
    (hfin : (E' + 149).toNat * 2^23 + M' < 0x7f800000) :
    decodeF32 (s * 2^31 + pack32 M' E') = .fin (if s = 1 then -((M' : ℚ) * pow2 E') else M' * pow2 E') := by
  have hx : pack32 M' E' < 0x7f800000 := by unfold pack32; simp only [if_neg (Nat.not_le.mpr hfin)]; exact hfin
  rw [decodeF32_signed s _ hs hx]
  by_cases h : M' = 2^24
  · -- the carry is stored as `2^23` with the exponent one up
    subst h
    have h := scale_pow2 (2^23) 1 (E' + 1)
    rw [show E' + 1 - ((1 : Nat) : Int) = E' by omega, show 2^23 * 2^1 = 2^24 by norm_num] at h
    simp only [dec32_pack32_carry E' hE hfin, ← h]
  · simp only [dec32_pack32 M' E' (by omega) hE hc hfin]

/-- **bit-level narrowing is the (significand, exponent) rounding**: for a finite non-zero double whose rounded value does
    not overflow the float range, `static_cast<float>` (on bit patterns) denotes exactly `±M'·2^E'` with
    `(M', E') = narrowME (M, E)`, `(M, E) = dec64 b` -/
theorem narrow_decode (b : Nat) (he : b / 2^52 % 2^11 ≠ 2047) (hM : (dec64 b).1 ≠ 0) :
    let r := narrowME (dec64 b).1 (dec64 b).2
    (r.2 + 149).toNat * 2^23 + r.1 < 0x7f800000 →
      decodeF32 (narrowBits b) = .fin (if b / 2^63 % 2 = 1 then -((r.1 : ℚ) * pow2 r.2) else r.1 * pow2 r.2) := by
  intro r hno
  obtain ⟨b1, b2, b3⟩ := narrowME_canon _ _ (dec64_canon b)
  rw [narrowBits_finite b he hM]
  exact decodeF32_pack32 _ _ _ (Nat.mod_lt _ (by omega)) b1 b2 b3 hno

/-- `narrow_decode` for a normal double given by its fields -/
theorem narrow_decode_normal (s e m : Nat) (hs : s < 2) (hm : m < 2^52) (he0 : 0 < e) (he : e < 2047)
    (hno : ((narrowME (2^52 + m) ((e : Int) - 1075)).2 + 149).toNat * 2^23 + (narrowME (2^52 + m) ((e : Int) - 1075)).1 < 0x7f800000) :
    decodeF32 (narrowBits (s * 2^63 + e * 2^52 + m)) =
      .fin (if s = 1 then -(((narrowME (2^52 + m) ((e : Int) - 1075)).1 : ℚ) * pow2 (narrowME (2^52 + m) ((e : Int) - 1075)).2)
            else ((narrowME (2^52 + m) ((e : Int) - 1075)).1 : ℚ) * pow2 (narrowME (2^52 + m) ((e : Int) - 1075)).2) := by
  obtain ⟨h1, h2, hd⟩ := dec64_mk _ s e m rfl (by omega) hm
  rw [if_neg (by omega)] at hd
  have h := narrow_decode _ (ne_of_eq_of_ne h2 (Nat.ne_of_lt he)) (by rw [hd]; omega)
  rw [hd, h1, Nat.mod_eq_of_lt hs] at h
  exact h hno

theorem narrowME_half_quantum (M : Nat) (E : Int) :
    |((narrowME M E).1 : ℚ) * pow2 (narrowME M E).2 - M * pow2 E| ≤ pow2 (narrowME M E).2 / 2 := by
  obtain ⟨sh, hr, -⟩ := narrowME_spec M E
  rw [hr, pow2_split]
  -- `rshift_bound` in ℚ, times `2^E`
  have c1 : 2 * (M : ℚ) ≤ 2 * ((2:ℚ)^sh * rshift M sh) + (2:ℚ)^sh := by exact_mod_cast (rshift_bound M sh).1
  have c2 : 2 * ((2:ℚ)^sh * rshift M sh) ≤ 2 * (M : ℚ) + (2:ℚ)^sh := by exact_mod_cast (rshift_bound M sh).2
  have d1 := mul_le_mul_of_nonneg_right c1 (pow2_pos E).le
  have d2 := mul_le_mul_of_nonneg_right c2 (pow2_pos E).le
  exact abs_le.mpr ⟨by linarith, by linarith⟩

/-- half-quantum accuracy at bit level: the narrowed value differs from the double by at most half of the float
    quantum `2^E'` it was rounded to (so it is a nearest multiple of that quantum; ties to even by `rshift_tie_even`) -/
theorem narrow_half_quantum (m e : Nat) (hm : m < 2^52) (he0 : 0 < e) (he : e < 2047) :
    let r := narrowME (2^52 + m) ((e : Int) - 1075)
    |((r.1 : ℚ) * pow2 r.2) - ((2^52 + m : Nat) : ℚ) * pow2 ((e : Int) - 1075)| ≤ pow2 r.2 / 2 :=
  narrowME_half_quantum _ _
end Covfie.C07
