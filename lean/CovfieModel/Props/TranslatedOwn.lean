import CovfieModel.Model.OwnScript
import CovfieModel.Props.C12
/-! # The copy members of `array::owning_data_t`, run as the scripts they are written as, are the machine's steps -/
namespace Covfie.Heap

/-- The statement that copies the cells, run on an object that has just been given the zeroed buffer `nx`, in a state `T`
    where the source's buffer is still the one of `s`: it leaves in `nx` what `srcBuf` says a copy reads. -/
theorem copyCells_fill (s : CState) (hs : HInv s) (src : Nat) (o : Own) (ho : s.slots src = some o) (T : CState)
    (nx : Addr) (same : Bool) (hT : ∀ a, o.ptr = some a → T.heap a = s.heap a) (hz : T.heap nx = some (zeros o.size)) :
    ostep o same ⟨T, ⟨o.size, some nx⟩, false⟩ .copyCells =
      ⟨{ T with heap := upd T.heap nx (some (srcBuf s o)) }, ⟨o.size, some nx⟩, false⟩ := by
  obtain ⟨n, p⟩ := o
  cases p with
  | none => simp only [ostep, srcBuf, upd_self _ _ _ hz]; rfl
  | some a =>
    obtain ⟨buf, hb, hl⟩ := hs.live src n a ho
    simp only [ostep, srcBuf, hb, Option.getD_some, (hT a rfl).trans hb, Bool.false_eq_true, if_false]
    split
    · rw [← hl, List.take_length]
    · next hn =>
      have hn : n = 0 := Nat.eq_zero_of_not_pos hn
      subst hn
      rw [List.eq_nil_of_length_eq_zero hl, show upd T.heap nx (some []) = T.heap from upd_self _ _ _ hz]

theorem copy_ctor_translated (s : CState) (hs : HInv s) (dst src : Nat) :
    runCtor Ref.copy_ctor s dst src = cstep s (.copyCtor dst src) := by
  dsimp only [runCtor, cstep]
  cases hd : s.slots dst with
  | some d => rfl
  | none =>
    cases hsrc : s.slots src with
    | none => rfl
    | some o =>
      have e : Ref.copy_ctor.foldl (ostep o false) ⟨s, ⟨0, none⟩, false⟩ =
          ostep o false ⟨alloc s o.size, ⟨o.size, some s.next⟩, false⟩ .copyCells := rfl
      dsimp only
      rw [e, copyCells_fill s hs src o hsrc (alloc s o.size) s.next false
        (hT := fun a ha => upd_other _ _ _ _ fun e => ptr_ne_next s hs hsrc (e ▸ ha))
        (hz := upd_same _ _ _)]
      simp only [alloc, upd_upd_same']

theorem copy_assign_translated (s : CState) (hs : HInv s) (dst src : Nat) :
    runAssign Ref.copy_assign s dst src = cstep s (.copyAssign dst src) := by
  dsimp only [runAssign, cstep]
  cases hd : s.slots dst with
  | none => rfl
  | some d =>
    cases hsrc : s.slots src with
    | none => rfl
    | some o =>
      dsimp only
      split
      · next hsame =>
        have e : Ref.copy_assign.foldl (ostep o (dst == src)) ⟨s, d, false⟩ = ⟨s, d, true⟩ := by
          rw [beq_iff_eq.mpr hsame]; rfl
        rw [e]; dsimp only; rw [upd_self _ _ _ hd]
      · next hsame =>
        have hdn := ptr_ne_next s hs hd
        have e : Ref.copy_assign.foldl (ostep o false) ⟨s, d, false⟩ = ostep o false
            (ostep o false ⟨free (alloc s o.size) d.ptr, ⟨o.size, some s.next⟩, false⟩ .copyCells) .returnThis := rfl
        rw [beq_eq_false_iff_ne.mpr hsame, e, copyCells_fill s hs src o hsrc (free (alloc s o.size) d.ptr) s.next false
          (hT := fun a ha => (free_other _ _ _ (ptr_ne s hs (Ne.symm hsame) hd (by rw [hsrc, ← ha]))).trans
            (upd_other _ _ _ _ fun e => ptr_ne_next s hs hsrc (e ▸ ha)))
          (hz := (free_other _ _ _ hdn).trans (upd_same _ _ _))]
        simp only [ostep, Bool.false_eq_true, if_false, alloc, free_store s d.ptr s.next _ _ hdn, upd_upd_same', free_slots]

/-- after any history the invariant holds (`Covfie.C12.history_inv`), so on every reachable state the copy members as written
are exactly the machine's `copyCtor` / `copyAssign` steps -/
theorem copy_members_on_reachable (ops : List Op) (dst src : Nat) :
    runCtor Ref.copy_ctor (ops.foldl cstep cinit) dst src = cstep (ops.foldl cstep cinit) (.copyCtor dst src) ∧
    runAssign Ref.copy_assign (ops.foldl cstep cinit) dst src = cstep (ops.foldl cstep cinit) (.copyAssign dst src) :=
  ⟨copy_ctor_translated _ (Covfie.C12.history_inv ops) dst src, copy_assign_translated _ (Covfie.C12.history_inv ops) dst src⟩

end Covfie.Heap
