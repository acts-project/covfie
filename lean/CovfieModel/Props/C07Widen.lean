import CovfieModel.Lemmas.WidenBits
import CovfieModel.Model.Scalar
import Mathlib.Tactic.Ring
import Mathlib.Tactic.Linarith
import Mathlib.Tactic.NormNum
import Mathlib.Tactic.FieldSimp
import Mathlib.Algebra.Order.Field.Power
import Mathlib.Data.Rat.Lemmas
/-! # C07 (widening) — `static_cast<double>(float)` on bit patterns is exact: every non-NaN binary32 pattern denotes the
    same extended real after widening (normal, subnormal, zero, infinity), proved on the IEEE decoder of `Model/Scalar.lean`. -/
namespace Covfie.C07
open Covfie

theorem pow2_eq_zpow (e : Int) : pow2 e = (2 : ℚ) ^ e := by
  unfold pow2
  split
  · rename_i h
    rw [Nat.cast_pow, Nat.cast_ofNat, ← zpow_natCast, Int.toNat_of_nonneg h]
  · rename_i h
    rw [one_div, Nat.cast_pow, Nat.cast_ofNat, ← zpow_natCast, ← zpow_neg, Int.toNat_of_nonneg (by omega), neg_neg]

theorem pow2_pos (e : Int) : 0 < pow2 e := by rw [pow2_eq_zpow]; positivity

theorem pow2_split (a : Int) (n : Nat) : pow2 (a + n) = (2:ℚ)^n * pow2 a := by
  rw [pow2_eq_zpow, pow2_eq_zpow, zpow_add₀ two_ne_zero, zpow_natCast, mul_comm]

theorem pow2_mono (a b : Int) (h : a ≤ b) : pow2 a ≤ pow2 b := by
  rw [pow2_eq_zpow, pow2_eq_zpow]; exact zpow_le_zpow_right₀ (by norm_num) h

theorem scale_pow2 (M k : Nat) (E : Int) : ((M * 2^k : Nat) : ℚ) * pow2 (E - k) = M * pow2 E := by
  rw [Nat.cast_mul, Nat.cast_pow, Nat.cast_ofNat, mul_assoc, ← pow2_split, Int.sub_add_cancel]

theorem decodeIEEE_finite (eb mb b : Nat) (he : b / 2^mb % 2^eb ≠ 2^eb - 1) :
    let d : Nat × Int := if b / 2^mb % 2^eb = 0 then (b % 2^mb, 1 - (2^(eb-1) - 1) - mb)
      else (2^mb + b % 2^mb, ((b / 2^mb % 2^eb : Nat) : Int) - ((2^(eb-1) - 1) + mb))
    decodeIEEE eb mb b = .fin (if b / 2^(mb+eb) % 2 = 1 then -((d.1 : ℚ) * pow2 d.2) else d.1 * pow2 d.2) := by
  simp only [decodeIEEE, if_neg he]
  by_cases e0 : b / 2^mb % 2^eb = 0
  · simp only [if_pos e0]
  · simp only [if_neg e0, Int.sub_sub]

theorem decodeF32_finite (b : Nat) (he : b / 2^23 % 2^8 ≠ 255) :
    decodeF32 b = .fin (if b / 2^31 % 2 = 1 then -(((dec32 b).1 : ℚ) * pow2 (dec32 b).2) else (dec32 b).1 * pow2 (dec32 b).2) :=
  decodeIEEE_finite 8 23 b he

theorem decodeF64_finite (b : Nat) (he : b / 2^52 % 2^11 ≠ 2047) :
    decodeF64 b = .fin (if b / 2^63 % 2 = 1 then -(((dec64 b).1 : ℚ) * pow2 (dec64 b).2) else (dec64 b).1 * pow2 (dec64 b).2) :=
  decodeIEEE_finite 11 52 b he

theorem decodeIEEE_inf (eb mb b : Nat) (he : b / 2^mb % 2^eb = 2^eb - 1) (hm : b % 2^mb = 0) :
    decodeIEEE eb mb b = if b / 2^(mb+eb) % 2 = 1 then .ninf else .pinf := by
  simp only [decodeIEEE, he, hm, if_true]

def isNaN32 (b : Nat) : Prop := b / 2^23 % 2^8 = 255 ∧ b % 2^23 ≠ 0

/-- **widening is exact**: every non-NaN binary32 pattern denotes the same extended real after `static_cast<double>` -/
theorem widen_exact (b : Nat) (hb : b < 2^32) (hn : ¬ isNaN32 b) : decodeF64 (widenBits b) = decodeF32 b := by
  by_cases he : b / 2^23 % 2^8 = 255
  · have hm : b % 2^23 = 0 := Classical.not_not.mp fun h => hn ⟨he, h⟩
    obtain ⟨h1, h2, h3⟩ := widenBits_inf b he hm
    rw [decodeF64, decodeIEEE_inf 11 52 _ h2 h3, h1, Nat.mod_mod, decodeF32, decodeIEEE_inf 8 23 b he hm]
  · obtain ⟨k, -, hs', he', hd⟩ := widenBits_finite b he
    rw [decodeF64_finite _ he', decodeF32_finite b he, hd, hs', scale_pow2]

end Covfie.C07
