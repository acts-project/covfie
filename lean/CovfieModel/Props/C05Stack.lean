import CovfieModel.Props.C05
import CovfieModel.Props.C15
/-! # C05 (stack level) — a layout conversion preserves every lookup of the evaluator: the converted storage,
    read through the target layout, gives the source's value at every lattice coordinate; and so does any
    interpolator / affine layer placed above it (locality, C02). -/
namespace Covfie.C05
open Covfie.C15

/-- the storage after a conversion: cell `j` holds what the fold of writes over `nd_map` put there and is
    value-initialised (`zero`) where nothing was written (`make_unique<T[]>(n)` value-initialises) -/
def relayout {α : Type} (idx : List Nat → Nat) (sizes : List Nat) (len : Nat) (zero : α) (src : List Nat → α) : List α :=
  (List.range len).map fun j => (convert idx sizes src j).getD zero

theorem relayout_length {α : Type} (idx : List Nat → Nat) (sizes : List Nat) (len : Nat) (zero : α) (src : List Nat → α) :
    (relayout idx sizes len zero src).length = len := by simp [relayout]

theorem relayout_get {α : Type} (idx : List Nat → Nat) (sizes : List Nat) (len : Nat) (zero : α) (src : List Nat → α)
    (hinj : ∀ c c', InBox sizes c → InBox sizes c' → idx c = idx c' → c = c')
    (c : List Nat) (hc : InBox sizes c) (hlt : idx c < len) :
    (relayout idx sizes len zero src)[idx c]'(by rw [relayout_length]; exact hlt) = src c := by
  simp only [relayout, List.getElem_map, List.getElem_range]
  rw [convert_at idx sizes src hinj c hc]; rfl

/-- **conversion preserves lookups**: for source layout `idx₁` over `cells₁` and any target layout `idx₂` that is
    injective on the box and stays below the allocated length, looking up an in-range coordinate through the
    target layout over the converted storage returns the source's value (touching exactly the target's cell) -/
theorem convert_preserves_lookup (idx₁ idx₂ : List Nat → Nat) (sz : List Nat) (cells₁ : List (List Num)) (len₂ : Nat)
    (zero : List Num)
    (h₁ : ∀ c, InBox sz c → idx₁ c < cells₁.length)
    (h₂ : ∀ c, InBox sz c → idx₂ c < len₂)
    (inj₂ : ∀ c c', InBox sz c → InBox sz c' → idx₂ c = idx₂ c' → c = c')
    (c : List Nat) (hc : InBox sz c) :
    ∃ v, layoutL idx₁ (arrayB cells₁) (coordOf c) = .ok (v, [idx₁ c]) ∧
         layoutL idx₂ (arrayB (relayout idx₂ sz len₂ zero (fun t => cells₁.getD (idx₁ t) zero))) (coordOf c)
           = .ok (v, [idx₂ c]) := by
  refine ⟨cells₁[idx₁ c]'(h₁ c hc), layout_array_safe idx₁ cells₁ c (h₁ c hc), ?_⟩
  have hl : idx₂ c < (relayout idx₂ sz len₂ zero (fun t => cells₁.getD (idx₁ t) zero)).length := by
    rw [relayout_length]; exact h₂ c hc
  rw [layout_array_safe idx₂ _ c hl]
  rw [relayout_get idx₂ sz len₂ zero _ inj₂ c hc (h₂ c hc)]
  simp [List.getD, List.getElem?_eq_getElem (h₁ c hc)]

/-- instance: row-major → portable Morton, as field<morton<…>>(field<strided<…>>) does it -/
theorem strided_to_morton_preserves (w : Nat) (sz : List Nat) (cells : List (List Num)) (k : Nat) (zero : List Num)
    (hlen : cells.length = prod sz) (hfit : prod sz ≤ 2^w) (hN : 0 < sz.length)
    (hk : ∀ s ∈ sz, s ≤ 2^k) (hk64 : k ≤ 64 / sz.length) (c : List Nat) (hc : InBox sz c) :
    ∃ v, eval (fun x => .ok x) (.strided w .array) (.sized sz (.array cells)) (coordOf c) = .ok (v, [stridedIdxW w sz c]) ∧
         eval (fun x => .ok x) (.mortonF .array)
           (.sized sz (.array (relayout mortonLoop sz (2^(k * sz.length)) zero (fun t => cells.getD (stridedIdxW w sz t) zero))))
           (coordOf c) = .ok (v, [mortonLoop c]) := by
  apply convert_preserves_lookup (stridedIdxW w sz) mortonLoop sz cells _ zero _ _ _ c hc
  · intro t ht; rw [strided_nowrap w sz t ht hfit, hlen]; exact strided_lt sz t ht
  · intro t ht; exact C01.morton_in_storage sz t k ht hN hk
  · intro a b ha hb e
    exact C01.morton_no_alias sz a b ha hb hN
      (fun s hs => Nat.le_trans (hk s hs) (Nat.pow_le_pow_right (by omega) hk64)) e

/-- an interpolator above the storage order sees the same field after the conversion: C02's locality, stated for the
    linear interpolator over two storage orders that agree on the lattice -/
theorem linear_over_converted (b₁ b₂ : Backend) (c : List Num)
    (h : ∀ parts bs, mapE truncIdx c = .ok parts → bs ∈ corners c.length →
      b₁ (addBits (parts.map (·.1)) bs) = b₂ (addBits (parts.map (·.1)) bs)) :
    linearL b₁ c = linearL b₂ c := C02.linear_local b₁ b₂ c h

end Covfie.C05
