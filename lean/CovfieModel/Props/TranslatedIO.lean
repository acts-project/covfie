import CovfieModel.Model.IOScript
import CovfieModel.Lemmas.IO
/-! # The layers' `write_binary` / `read_binary` members, as the scripts they are written as, are the model's writer and reader

For every layer with a footprint the model's `dumpB` / `loadB` clause *is* the interpretation of the script `harness/cxx2io.py`
recognises in the source (header, fields in the written order, inner layer, footer); the footprint-free layers forward to the
inner layer. Every check of C06 re-reads the current text and compares. -/
namespace Covfie.IO

/-! ### writers: the script's pieces in the written order are the model's bracket around fields and inner layer -/
theorem dump_constant (sz M : Nat) (v : List Nat) :
    dumpB (.constant sz M) (.constant v) = wr Ref.constant.tag Ref.constant.write [words sz v] [] := by
  simp only [dumpB, wr, wrapD, Ref.constant, List.append_assoc, List.append_nil]
theorem dump_identity : dumpB .identity .identity = wr Ref.identity.tag Ref.identity.write [] [] := by
  simp only [dumpB, wr, wrapD, Ref.identity, List.append_nil]
theorem dump_sized (s : Script) (hs : s.write = [.hdr, .field .sizes, .inner, .ftr]) (N : Nat) (b : Ty) (cfg : List Nat) (d : Dat) :
    dumpB (.sized s.tag N b) (.sized cfg d) = wr s.tag s.write [words 8 cfg] (dumpB b d) := by
  simp only [dumpB, wr, wrapD, hs, List.append_assoc, List.append_nil]
theorem dump_clamp (sz N : Nat) (b : Ty) (lo hi : List Nat) (d : Dat) :
    dumpB (.clamp sz N b) (.clamp lo hi d) = wr Ref.clamp.tag Ref.clamp.write [words sz lo, words sz hi] (dumpB b d) := by
  simp only [dumpB, wr, wrapD, Ref.clamp, List.append_assoc, List.append_nil]
theorem dump_backup (sz N osz M : Nat) (b : Ty) (lo hi df : List Nat) (d : Dat) :
    dumpB (.backup sz N osz M b) (.backup lo hi df d)
      = wr Ref.backup.tag Ref.backup.write [words sz lo, words sz hi, words osz df] (dumpB b d) := by
  simp only [dumpB, wr, wrapD, Ref.backup, List.append_assoc, List.append_nil]
theorem dump_affine (sz N : Nat) (b : Ty) (m : List Nat) (d : Dat) :
    dumpB (.affine sz N b) (.affine m d) = wr Ref.affine.tag Ref.affine.write [words sz m] (dumpB b d) := by
  simp only [dumpB, wr, wrapD, Ref.affine, List.append_assoc, List.append_nil]
theorem dump_thin (b : Ty) (d : Dat) : dumpB (.thin b) (.thin d) = wr Ref.thin.tag Ref.thin.write [] (dumpB b d) := by
  simp only [dumpB, wr, Ref.thin, List.append_nil]

/-! ### readers: script and model clause are the same sequence of parsers; they differ in how the binds are nested and in
the script's detour through the list of fields read, which the monad laws remove -/
theorem load_clamp (sz N : Nat) (b : Ty) :
    loadB (.clamp sz N b) = bindP (rdS Ref.clamp.tag Ref.clamp.read [readN (rd sz) N, readN (rd sz) N] (loadB b)) fun r =>
      match r with
      | ([lo, hi], some d) => pureP (.clamp lo hi d)
      | _ => failP .truncated := by
  simp only [loadB, rdS, wrapP, Ref.clamp, bindP_assoc, bindP_pure]

theorem load_constant (sz M : Nat) :
    loadB (.constant sz M) = bindP (rdS Ref.constant.tag Ref.constant.read [readN (rd sz) M] (pureP .identity)) fun r =>
      match r with
      | ([v], none) => pureP (.constant v)
      | _ => failP .truncated := by
  simp only [loadB, rdS, wrapP, Ref.constant, bindP_assoc, bindP_pure]

theorem load_identity :
    loadB .identity = bindP (rdS Ref.identity.tag Ref.identity.read [] (pureP .identity)) fun r =>
      match r with
      | ([], none) => pureP .identity
      | _ => failP .truncated := by
  simp only [loadB, rdS, wrapP, Ref.identity, bindP_assoc, bindP_pure]

theorem load_sized (s : Script) (hs : s.read = [.hdr, .field .sizes, .inner, .ftr]) (N : Nat) (b : Ty) :
    loadB (.sized s.tag N b) = bindP (rdS s.tag s.read [readN (rd 8) N] (loadB b)) fun r =>
      match r with
      | ([cfg], some d) => pureP (.sized cfg d)
      | _ => failP .truncated := by
  simp only [loadB, rdS, wrapP, hs, bindP_assoc, bindP_pure]

theorem load_backup (sz N osz M : Nat) (b : Ty) :
    loadB (.backup sz N osz M b)
      = bindP (rdS Ref.backup.tag Ref.backup.read [readN (rd sz) N, readN (rd sz) N, readN (rd osz) M] (loadB b)) fun r =>
      match r with
      | ([lo, hi, df], some d) => pureP (.backup lo hi df d)
      | _ => failP .truncated := by
  simp only [loadB, rdS, wrapP, Ref.backup, bindP_assoc, bindP_pure]

theorem load_affine (sz N : Nat) (b : Ty) :
    loadB (.affine sz N b) = bindP (rdS Ref.affine.tag Ref.affine.read [readN (rd sz) (N * (N + 1))] (loadB b)) fun r =>
      match r with
      | ([m], some d) => pureP (.affine m d)
      | _ => failP .truncated := by
  simp only [loadB, rdS, wrapP, Ref.affine, bindP_assoc, bindP_pure]

theorem load_thin (b : Ty) :
    loadB (.thin b) = bindP (rdS Ref.thin.tag Ref.thin.read [] (loadB b)) fun r =>
      match r with
      | ([], some d) => pureP (.thin d)
      | _ => failP .truncated := by
  simp only [loadB, rdS, Ref.thin, bindP_assoc, bindP_pure]

/-- `field::dump` as written is the model's `dump` -/
theorem dump_field (ty : Ty) (d : Dat) : dump ty d = wr Ref.field.tag Ref.field.write [] (dumpB ty d) := by
  simp only [dump, wr, wrapD, Ref.field, List.append_assoc, List.append_nil]

/-- `field(std::istream&)` as written (header inside the member initialiser, stack, footer in the body) is the model's `load` -/
theorem load_field (ty : Ty) :
    load ty = bindP (rdS Ref.field.tag Ref.field.read [] (loadB ty)) fun r =>
      match r with
      | ([], some d) => pureP d
      | _ => failP .truncated := by
  simp only [load, rdS, wrapP, Ref.field, bindP_assoc, bindP_pure]

/-- the three storage orders share one script shape and differ in the tag only -/
theorem sized_scripts : Ref.strided.write = [.hdr, .field .sizes, .inner, .ftr] ∧ Ref.morton.write = [.hdr, .field .sizes, .inner, .ftr]
    ∧ Ref.hilbert.write = [.hdr, .field .sizes, .inner, .ftr] ∧ Ref.strided.read = Ref.strided.write
    ∧ Ref.morton.read = Ref.morton.write ∧ Ref.hilbert.read = Ref.hilbert.write
    ∧ Ref.strided.tag = T_STRIDED ∧ Ref.morton.tag = T_MORTON ∧ Ref.hilbert.tag = T_HILBERT := by decide

end Covfie.IO
