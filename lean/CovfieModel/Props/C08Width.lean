import CovfieModel.Lemmas.IOReject
/-! # C08 (float-width word swapped between 8 and 4)

The property demands that a stream whose float-width word was altered is rejected. For replacement values other
than 4 and 8 that is `Covfie.C08.load_altered_rejects`. For the swap 8 ↔ 4 the unrestricted statement is FALSE
(`Covfie.C08.widthswap_accepts_witness`, Props/C08.lean): the format has no length or checksum, so a payload that
carries the footer words where the shorter read ends is accepted. What *is* true is proved here: the swap is
rejected whenever the payload does not mimic the footer magic at that offset (`…_partial`), and the swap 4 → 8 of
a whole file is rejected whenever the array has more than four scalars (the reader runs off the end). -/
namespace Covfie.C08
open Covfie.IO

/-- the array bracket with width word `w'`, count `n` and a payload written at width `wd` -/
def arrBytes (w' n wd : Nat) (cells : List Nat) : List Byte := wrapD T_ARRAY (le 4 w' ++ le 8 n ++ words wd cells)

/-- the payload does not carry the footer magic at the offset where the 4-byte reads end -/
def NoMimic (n M : Nat) (cells : List Nat) : Prop :=
  ∀ v r, rd 4 ((words 8 cells).drop (4 * (n * M))) = .ok (v, r) → v ≠ MAGF

instance (n M : Nat) (cells : List Nat) : Decidable (NoMimic n M cells) :=
  match h : rd 4 ((words 8 cells).drop (4 * (n * M))) with
  | .ok (v, r) => if hv : v = MAGF then isFalse (fun hm => hm v r h hv) else
      isTrue (fun v' r' h' => by rw [h] at h'; cases h'; exact hv)
  | .error _ => isTrue (fun v' r' h' => by rw [h] at h'; cases h')

/-- **8 → 4, array level**: a double array whose width word is replaced by 4 is rejected, provided the payload
    does not mimic the footer magic where the shorter read ends -/
theorem array_8to4_rejects_partial (M n : Nat) (cells : List Nat) (hwf : WF (.array M) (.array 8 n cells))
    (hpos : 0 < n * M) (hm : NoMimic n M cells) (rest : List Byte) :
    IsErr (loadB (.array M) (arrBytes 4 n 8 cells ++ rest)) := by
  obtain ⟨_, hl, hlen, _⟩ := hwf
  have hlen8 : (words 8 cells).length = 8 * (n * M) := by rw [words_length, hlen]
  -- the payload is what the 4-byte reads consume, then the four bytes the footer check reads, then the rest
  have split : words 8 cells = (words 8 cells).take (4 * (n * M)) ++
      (((words 8 cells).drop (4 * (n * M))).take 4 ++ ((words 8 cells).drop (4 * (n * M))).drop 4) := by
    rw [List.take_append_drop, List.take_append_drop]
  obtain ⟨vs, hvs⟩ := readN_take 4 (n * M) (words 8 cells) (by omega)
  obtain ⟨v, hv⟩ := rd_take 4 ((words 8 cells).drop (4 * (n * M))) (by rw [List.length_drop]; omega)
  have hne : v ≠ MAGF := hm v _ hv.of_take
  have := Runs.wrap_ftr (t := T_ARRAY) (by decide) (arrayBody (M := M) (.inl rfl) hl hvs) ((Runs.expect_ne _ hv hne).fail)
  rw [arrBytes, wrapD, split]
  simpa only [loadB, List.append_assoc] using this _

/-- **8 → 4, whole file** (array directly beneath the field bracket) -/
theorem load_widthswap_8to4_partial (M n : Nat) (cells : List Nat) (hwf : WF (.array M) (.array 8 n cells))
    (hpos : 0 < n * M) (hm : NoMimic n M cells) (rest : List Byte) :
    IsErr (load (.array M) (wrapD T_FIELD (arrBytes 4 n 8 cells) ++ rest)) :=
  Runs.wrap (o := none) (by decide) (array_8to4_rejects_partial M n cells hwf hpos hm) rest

/-- **4 → 8, whole file**: a float array file whose width word is replaced by 8 is rejected as soon as it holds
    more than four scalars: the reader needs `8·n·M` bytes and only `4·n·M + 16` remain -/
theorem load_widthswap_4to8 (M n : Nat) (cells : List Nat) (hwf : WF (.array M) (.array 4 n cells))
    (hbig : 4 < n * M) : IsErr (load (.array M) (wrapD T_FIELD (arrBytes 8 n 4 cells))) := by
  obtain ⟨_, hl, hlen, _⟩ := hwf
  have hlen4 : (words 4 cells).length = 4 * (n * M) := by rw [words_length, hlen]
  simp only [load, loadB, arrBytes, wrapP, wrapD, List.append_assoc]
  rw [bindP_ok (Runs.pHdr (by decide) _)]
  apply bindP_err
  rw [bindP_ok (Runs.pHdr (by decide) _)]
  apply bindP_err
  rw [bindP_ok (Runs.rd (by decide) _)]
  simp only [or_true, if_true]
  rw [bindP_ok (Runs.rd hl _)]
  apply bindP_err
  apply readN_short
  simp only [List.length_append, hlen4, ftr, le_length]
  omega

-- non-vacuity: the hypotheses are satisfiable (an ordinary 2-element double array) …
example : WF (.array 1) (.array 8 2 [0x3ff0000000000000, 0x4000000000000000]) ∧ 0 < 2 * 1 ∧
    NoMimic 2 1 [0x3ff0000000000000, 0x4000000000000000] := by
  refine ⟨by simp [WF, allLt], by decide, by decide⟩
-- … and necessary: the witness payload of `widthswap_accepts_witness` does mimic the footer
example : ¬ NoMimic 4 1 [0x3ff0000000000000, 0x4000000000000000,
    (0xCB010000 <<< 32) ||| 0xC04F1E70, (0xCB000000 <<< 32) ||| 0xC04F1E70] := by decide
end Covfie.C08
