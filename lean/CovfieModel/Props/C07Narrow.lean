import CovfieModel.Lemmas.Bits
/-! # C07 (precision part) — narrowing double → float rounds to nearest (ties to even); widening is exact.
    Stated on the integer significand/exponent pair `(M, E)` (value `M · 2^E`); the bit-packing around it is
    validated against the hardware conversion by the correspondence check.
    The definitions (`rshift`, `narrowME`, `narrowBits`, `widenBits`) live in `Model/Narrow.lean` so that the driver runs them. -/
namespace Covfie.C07

/-- `rshift` rounds down (remainder at most half; quotient even at a tie) or up (at least half; quotient odd at a tie) -/
theorem rshift_cases (M sh : Nat) :
    rshift M sh = M / 2^sh ∧ 2 * (M % 2^sh) ≤ 2^sh ∧ (2 * (M % 2^sh) = 2^sh → M / 2^sh % 2 = 0) ∨
    rshift M sh = M / 2^sh + 1 ∧ 2^sh ≤ 2 * (M % 2^sh) ∧ (2 * (M % 2^sh) = 2^sh → M / 2^sh % 2 = 1) := by
  unfold rshift
  cases sh with
  | zero => rw [if_pos rfl, Nat.pow_zero, Nat.div_one, Nat.mod_one]; exact Or.inl (by omega)
  | succ k =>
    rw [if_neg (Nat.succ_ne_zero k), Nat.pow_succ, Nat.mul_div_cancel _ (by omega : 0 < 2)]
    generalize M / (2^k * 2) = q
    generalize M % (2^k * 2) = r
    generalize 2^k = half
    split
    · exact Or.inl (by omega)
    · split
      · exact Or.inr (by omega)
      · split
        · exact Or.inl (by omega)
        · exact Or.inr (by omega)

/-- `|M − 2^sh · rshift M sh| ≤ 2^sh / 2`, stated without subtraction -/
theorem rshift_bound (M sh : Nat) :
    2 * M ≤ 2 * (2^sh * rshift M sh) + 2^sh ∧ 2 * (2^sh * rshift M sh) ≤ 2 * M + 2^sh := by
  have hd := Nat.div_add_mod M (2^sh)
  rcases rshift_cases M sh with ⟨h, h1, -⟩ | ⟨h, h1, -⟩
  · rw [h]; omega
  · rw [h, Nat.mul_add, Nat.mul_one]; omega

/-- values exactly representable at the coarser quantum are unchanged (in particular every widened float) -/
theorem rshift_exact (M sh : Nat) (h : M % 2^sh = 0) : 2^sh * rshift M sh = M := by
  have hd := Nat.div_add_mod M (2^sh)
  rcases rshift_cases M sh with ⟨hr, -, -⟩ | ⟨-, h1, -⟩
  · rw [hr]; omega
  · omega

/-- ties go to the even significand -/
theorem rshift_tie_even (M sh : Nat) (h0 : sh ≠ 0) (h : M % 2^sh = 2^sh / 2) : rshift M sh % 2 = 0 := by
  have h2 : 2 * (M % 2^sh) = 2^sh := by
    obtain ⟨k, rfl⟩ := Nat.exists_eq_succ_of_ne_zero h0
    rw [h, Nat.pow_succ]; omega
  rcases rshift_cases M sh with ⟨hr, -, he⟩ | ⟨hr, -, ho⟩
  · rw [hr]; exact he h2
  · rw [hr]; have := ho h2; omega

theorem rshift_between (M sh : Nat) : M / 2^sh ≤ rshift M sh ∧ rshift M sh ≤ M / 2^sh + 1 := by
  rcases rshift_cases M sh with ⟨h, -⟩ | ⟨h, -⟩
  · rw [h]; omega
  · rw [h]; omega

theorem rshift_le_pow (M sh a : Nat) (h : M < 2^(a + sh)) : rshift M sh ≤ 2^a := by
  have h1 := (rshift_between M sh).2
  have h2 : M / 2^sh < 2^a := by rw [Nat.div_lt_iff_lt_mul (Nat.two_pow_pos sh), ← Nat.pow_add]; exact h
  omega

theorem pow_le_rshift (M sh a : Nat) (h : 2^(a + sh) ≤ M) : 2^a ≤ rshift M sh :=
  Nat.le_trans ((Nat.le_div_iff_mul_le (Nat.two_pow_pos sh)).mpr (by rw [← Nat.pow_add]; exact h)) (rshift_between M sh).1

/-- the shift `sh` that `narrowME` drops leaves at most 24 bits at an exponent of at least −149; on input below the float
    quantum or at least 24 bits long it drops no more than that needs: exponent exactly −149, or exactly 24 bits left -/
theorem narrowME_spec (M : Nat) (E : Int) :
    ∃ sh : Nat, narrowME M E = (rshift M sh, E + sh) ∧ M < 2^(24 + sh) ∧ -149 ≤ E + sh ∧
      (E < -149 ∨ 2^23 ≤ M → E + sh = -149 ∨ 2^(23 + sh) ≤ M) := by
  -- the same in terms of `l = log2 M`
  have key : ∀ l sh : Nat, max (l + 1 - 24) ((-149 - E).toNat) = sh →
      l + 1 ≤ 24 + sh ∧ -149 ≤ E + sh ∧ (E < -149 ∨ 23 ≤ l → E + sh = -149 ∨ 23 + sh = l) := by omega
  obtain ⟨h1, h2, h3⟩ := key (Nat.log2 M) _ rfl
  refine ⟨_, rfl, Nat.lt_of_lt_of_le Nat.lt_log2_self (Nat.pow_le_pow_right (by decide) h1), h2, fun h => ?_⟩
  have hlog : E < -149 ∨ 23 ≤ Nat.log2 M :=
    h.imp id fun h23 => (Nat.le_log2 (Nat.ne_of_gt (Nat.lt_of_lt_of_le (Nat.two_pow_pos 23) h23))).mpr h23
  refine (h3 hlog).imp id fun hl => ?_
  rw [hl]
  exact Nat.log2_self_le fun h0 => by rw [h0, Nat.log2_zero] at hl; omega

/-- the rounded pair is what `pack32` expects -/
theorem narrowME_canon (M : Nat) (E : Int) (h : E < -149 ∨ 2^23 ≤ M) :
    (narrowME M E).1 ≤ 2^24 ∧ -149 ≤ (narrowME M E).2 ∧ ((narrowME M E).2 = -149 ∨ 2^23 ≤ (narrowME M E).1) := by
  obtain ⟨sh, hr, h1, h2, h3⟩ := narrowME_spec M E
  rw [hr]
  exact ⟨rshift_le_pow M sh 24 h1, h2, (h3 h).imp id (pow_le_rshift M sh 23)⟩

/-- a double that is exactly a float value `M·2^E` in canonical form (24 bits, or fewer at the quantum 2^−149), written with
    `k` more significand bits, narrows to that value: every shift below `k` would leave more than 24 bits or go under the quantum -/
theorem narrowME_scaled (M k : Nat) (E : Int) (h0 : M ≠ 0) (hM : M < 2^24) (hE : -149 ≤ E) (hc : E = -149 ∨ 2^23 ≤ M) :
    narrowME (M * 2^k) (E - k) = (M, E) := by
  have hl : Nat.log2 M < 24 := (Nat.log2_lt h0).mpr hM
  have hc' : E = -149 ∨ 23 ≤ Nat.log2 M := hc.imp id (Nat.le_log2 h0).mpr
  have hsh : max (Nat.log2 M + k + 1 - 24) ((-149 - (E - k)).toNat) = k := by omega
  have hr : rshift (M * 2^k) k = M :=
    Nat.eq_of_mul_eq_mul_left (Nat.two_pow_pos k) ((rshift_exact _ k (Nat.mul_mod_left _ _)).trans (Nat.mul_comm _ _))
  simp only [narrowME, log2_mul_two_pow M k h0, hsh, hr, Int.sub_add_cancel]

/-- half-quantum accuracy: `|M·2^E − M'·2^E'| ≤ 2^E' / 2` (scaled by `2^(−E)` to stay in the integers) -/
theorem narrowME_bound (M : Nat) (E : Int) :
    ∃ sh : Nat, (narrowME M E).2 = E + sh ∧
      2 * M ≤ 2 * (2^sh * (narrowME M E).1) + 2^sh ∧ 2 * (2^sh * (narrowME M E).1) ≤ 2 * M + 2^sh := by
  obtain ⟨sh, hr, -⟩ := narrowME_spec M E
  rw [hr]
  exact ⟨sh, rfl, rshift_bound M sh⟩

-- tests of the model (the harness compares these decisions with `static_cast<float>(double)`):
#guard narrowME (2^52 + 1) (-52) == (2^23, -23)            -- 1 + 2^-52  → 1.0
#guard narrowME (2^52 + 2^28) (-52) == (2^23, -23)         -- tie, even below
#guard narrowME (2^52 + 3 * 2^28) (-52) == (2^23 + 2, -23) -- tie, even above
#guard narrowME 1 (-1074) == (0, -149)                     -- smallest subnormal double → 0

/-! `narrowBits` decodes a finite binary64 pattern to `(M, E)` (`dec64`), rounds with `narrowME` and packs with `pack32`.
The lemmas below say that packing is the inverse of the binary32 decoder `dec32` on every rounded magnitude that
`narrowME` can produce (normal, subnormal, and the carry `M' = 2^24` into the next binade), so the half-quantum bound of
`rshift_bound` is a statement about the value that the produced bit pattern denotes. The agreement of `narrowBits` with
`static_cast<float>(double)` itself is the correspondence obligation `narrow_hw`. -/

theorem pack32_fin (M' k : Nat) (h : k * 2^23 + M' < 0x7f800000) : pack32 M' ((k : Int) - 149) = k * 2^23 + M' := by
  unfold pack32
  rw [Int.sub_add_cancel, Int.toNat_natCast]
  exact if_neg (Nat.not_le.mpr h)

/-- `dec32` reads a pair in canonical form back from its magnitude `k·2^23 + M`: a significand below `2^23` sits under the
    exponent field 0, the leading bit of a longer one raises the exponent field to `k + 1` -/
theorem dec32_mag (M k : Nat) (hM : M < 2^24) (hc : k = 0 ∨ 2^23 ≤ M) (h : k * 2^23 + M < 0x7f800000) :
    dec32 (k * 2^23 + M) = (M, (k : Int) - 149) := by
  by_cases h23 : M < 2^23
  · obtain rfl : k = 0 := hc.resolve_right (Nat.not_le.mpr h23)
    rw [dec32_mk 0 M (by omega) h23, if_pos rfl]; rfl
  · obtain ⟨m, rfl⟩ := Nat.exists_eq_add_of_le (Nat.le_of_not_lt h23)
    rw [← Nat.add_assoc, ← Nat.succ_mul, dec32_mk (k + 1) m (by omega) (by omega), if_neg (Nat.succ_ne_zero k)]
    exact Prod.ext rfl (by omega)

theorem dec32_pack32 (M : Nat) (E : Int) (hM : M < 2^24) (hE : -149 ≤ E) (hc : E = -149 ∨ 2^23 ≤ M)
    (hfin : (E + 149).toNat * 2^23 + M < 0x7f800000) : dec32 (pack32 M E) = (M, E) := by
  obtain ⟨k, rfl⟩ : ∃ k : Nat, E = (k : Int) - 149 := ⟨(E + 149).toNat, by omega⟩
  rw [Int.sub_add_cancel, Int.toNat_natCast] at hfin
  rw [pack32_fin M k hfin]
  exact dec32_mag M k hM (hc.imp_left fun h => by omega) hfin

/-- normal result: 24 significant bits -/
theorem dec32_pack32_normal (M' : Nat) (E' : Int) (h1 : 2^23 ≤ M') (h2 : M' < 2^24) (h3 : -149 ≤ E')
    (h4 : (E' + 149).toNat * 2^23 + M' < 0x7f800000) : dec32 (pack32 M' E') = (M', E') :=
  dec32_pack32 M' E' h2 h3 (Or.inr h1) h4

/-- subnormal result: fewer than 24 bits at the quantum 2^−149 -/
theorem dec32_pack32_subnormal (M' : Nat) (h : M' < 2^23) : dec32 (pack32 M' (-149)) = (M', -149) :=
  dec32_pack32 M' (-149) (by omega) (Int.le_refl _) (Or.inl rfl) (by omega)

/-- rounding carried out of the significand (`M' = 2^24`): the packed pattern is the power of two of the next binade -/
theorem dec32_pack32_carry (E' : Int) (h3 : -149 ≤ E') (h4 : (E' + 149).toNat * 2^23 + 2^24 < 0x7f800000) :
    dec32 (pack32 (2^24) E') = (2^23, E' + 1) := by
  obtain ⟨k, rfl⟩ : ∃ k : Nat, E' = (k : Int) - 149 := ⟨(E' + 149).toNat, by omega⟩
  rw [Int.sub_add_cancel, Int.toNat_natCast] at h4
  rw [pack32_fin _ k h4, show k * 2^23 + 2^24 = (k + 1) * 2^23 + 2^23 by omega,
    dec32_mag (2^23) (k + 1) (by omega) (Or.inr (Nat.le_refl _)) (by omega)]
  exact Prod.ext rfl (by omega)

/-- anything at or beyond 2^128 packs to the infinity pattern -/
theorem pack32_overflow (M' : Nat) (E' : Int) (h : (E' + 149).toNat * 2^23 + M' ≥ 0x7f800000) : pack32 M' E' = 0x7f800000 := by
  unfold pack32; simp only [h, if_true]

/-- on finite non-zero doubles `narrowBits` is: decode (`dec64`), round (`narrowME`, the function the accuracy theorems are
    about), pack (`pack32`), sign bit carried over -/
theorem narrowBits_finite (b : Nat) (he : b / 2^52 % 2^11 ≠ 2047) (hM : (dec64 b).1 ≠ 0) :
    narrowBits b = (b / 2^63 % 2) * 2^31 + pack32 (narrowME (dec64 b).1 (dec64 b).2).1 (narrowME (dec64 b).1 (dec64 b).2).2 := by
  unfold narrowBits
  simp only [he, hM, if_false]

/-- zeros (among the finite doubles, the patterns with `(dec64 b).1 = 0`) keep only their sign -/
theorem narrowBits_zero (b : Nat) (he : b / 2^52 % 2^11 ≠ 2047) (hM : (dec64 b).1 = 0) : narrowBits b = (b / 2^63 % 2) * 2^31 := by
  unfold narrowBits
  simp only [he, hM, if_false, if_true]

theorem narrowBits_inf (b : Nat) (he : b / 2^52 % 2^11 = 2047) (hm : b % 2^52 = 0) :
    narrowBits b = (b / 2^63 % 2) * 2^31 + 0x7f800000 := by
  simp only [narrowBits, he, hm, if_true]

theorem pack32_dec32 (b : Nat) (he : b / 2^23 % 2^8 ≠ 255) : pack32 (dec32 b).1 (dec32 b).2 = b % 2^31 := by
  have he8 := Nat.mod_lt (b / 2^23) (Nat.two_pow_pos 8)
  have hm := Nat.mod_lt b (Nat.two_pow_pos 23)
  rw [bit_low 23 8 31 b rfl]
  simp only [dec32]
  generalize b / 2^23 % 2^8 = e at *
  generalize b % 2^23 = m at *
  by_cases e0 : e = 0
  · rw [if_pos e0, e0]; exact pack32_fin m 0 (by omega)
  · obtain ⟨k, rfl⟩ := Nat.exists_eq_succ_of_ne_zero e0
    rw [if_neg e0, show ((k + 1 : Nat) : Int) - 150 = (k : Int) - 149 by omega, pack32_fin _ k (by omega)]
    omega

-- evaluation tests of the bit-pattern functions (the same values are in the harness' boundary set)
#guard narrowBits 0x3ff0000000000001 == 0x3f800000                  -- 1 + 2^-52 → 1.0
#guard narrowBits 0x3ff0000010000000 == 0x3f800000                  -- tie → even (down)
#guard narrowBits 0x3ff0000030000000 == 0x3f800002                  -- tie → even (up)
#guard narrowBits 0x3ff0000010000001 == 0x3f800001                  -- just above the tie
#guard narrowBits 0x3fffffffffffffff == 0x40000000                  -- carry into the next binade
#guard narrowBits 0x47efffffefffffff == 0x7f7fffff                  -- just below the overflow threshold → FLT_MAX
#guard narrowBits 0x47effffff0000000 == 0x7f800000                  -- FLT_MAX + half ulp (tie) → even → infinity
#guard narrowBits 0xc7effffff0000000 == 0xff800000
#guard narrowBits 0x36a0000000000000 == 0x00000001                  -- 2^-149
#guard narrowBits 0x3690000000000000 == 0                           -- 2^-150: tie → even → 0
#guard narrowBits 0x3690000000000001 == 0x00000001                  -- just above 2^-150
#guard narrowBits 0x36a8000000000000 == 0x00000002                  -- 1.5·2^-149: tie → even (up)
#guard narrowBits 0x380fffffffffffff == 0x00800000                  -- largest subnormal-range double rounds up to FLT_MIN
#guard narrowBits 0x8000000000000000 == 0x80000000                  -- −0
#guard narrowBits 0x0000000000000001 == 0                           -- double subnormal → +0
#guard narrowBits 0x800fffffffffffff == 0x80000000                  -- negative double subnormal → −0
#guard narrowBits 0x7ff0000000000000 == 0x7f800000
#guard narrowBits 0x7ff0000000000001 == 0x7fc00000                  -- signalling NaN, payload lost → quiet NaN
#guard narrowBits 0xfff4000000000001 == 0xffe00000                  -- payload's top bits kept, quieted
#guard widenBits 0x3f800001 == 0x3ff0000020000000
#guard widenBits 0x00000001 == 0x36a0000000000000                   -- smallest float subnormal, normalised
#guard widenBits 0x007fffff == 0x380fffffc0000000
#guard widenBits 0x80000000 == 0x8000000000000000
#guard widenBits 0x7f800000 == 0x7ff0000000000000
#guard widenBits 0x7fa00001 == 0x7ffc000020000000                   -- signalling NaN → quieted, payload kept
#guard narrowBits (widenBits 0x7f7fffff) == 0x7f7fffff
#guard narrowBits (widenBits 0x00000001) == 0x00000001
#guard (List.range 2000).all fun i => narrowBits (widenBits (i * 1048573 % 0x7f800000)) == i * 1048573 % 0x7f800000
#guard Covfie.IO.convDat 4 (.thin (.sized [2, 1] (.array 8 2 [0x3ff0000010000001, 0x3690000000000000])))
      == .thin (.sized [2, 1] (.array 4 2 [0x3f800001, 0]))
#guard Covfie.IO.convDat 8 (.array 4 1 [0x00000001]) == .array 8 1 [0x36a0000000000000]
end Covfie.C07
