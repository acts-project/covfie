import CovfieModel.Props.C15
import CovfieModel.Props.C04
import CovfieModel.Props.C10
/-! # C15 / C10 — interpolators over array storage on their documented domains: nearest neighbour for
    `−½ < x_k < extent_k − ½`, linear for `0 ≤ x_k < extent_k − 1`; and, with a clamp **above** the interpolator whose box
    lies inside that domain, for *every* NaN-free coordinate, infinities included (C10: "clamp placed above an interpolator"). -/
namespace Covfie.C15
open Covfie

/-- the documented domain of nearest-neighbour lookups, per axis -/
def NNDom : List Nat → List ℚ → Prop
  | [], [] => True
  | s :: ss, q :: qs => (-(1/2) < q ∧ q < (s : ℚ) - 1/2) ∧ NNDom ss qs
  | _, _ => False

/-- the lattice point a nearest-neighbour lookup selects -/
def nnPoint (qs : List ℚ) : List Nat := qs.map fun q => (nnRound q).toNat

theorem nnDom_grid (sz : List Nat) (qs : List ℚ) (h : NNDom sz qs) :
    InBox sz (nnPoint qs) ∧ ∀ q ∈ qs, 0 ≤ nnRound q := by
  fun_induction NNDom sz qs
  case case1 => exact ⟨trivial, nofun⟩
  case case2 s ss q qs ih =>
    have hg := C04.nnRound_in_grid q s h.1.1 h.1.2
    exact ⟨⟨show (nnRound q).toNat < s by omega, (ih h.2).1⟩, List.forall_mem_cons.2 ⟨hg.1, (ih h.2).2⟩⟩
  case case3 => exact h.elim

theorem nn_lattice (bk : Backend) (sz : List Nat) (qs : List ℚ) (hd : NNDom sz qs) :
    nnL bk (qs.map Num.fin) = bk (coordOf (nnPoint qs)) := by
  have hn := (nnDom_grid sz qs hd).2
  rw [(C04.nn_eval bk qs hn).1, coordOf, nnPoint, List.map_map]
  exact congrArg bk (List.map_congr_left fun q hq => by
    rw [Function.comp_apply, ← Int.cast_natCast, Int.toNat_of_nonneg (hn q hq)])

/-- nearest neighbour over any storage order over an array: if the order maps the selected lattice point inside the
    storage, the lookup reads exactly that cell and hits no UB condition -/
theorem nn_layout_array_safe (idx : List Nat → Nat) (cells : List (List Num)) (sz : List Nat) (qs : List ℚ)
    (hd : NNDom sz qs) (hin : idx (nnPoint qs) < cells.length) :
    nnL (layoutL idx (arrayB cells)) (qs.map Num.fin) = .ok (cells[idx (nnPoint qs)], [idx (nnPoint qs)]) :=
  (nn_lattice _ sz qs hd).trans (layout_array_safe idx cells _ hin)

theorem nn_strided_array_safe (cv : Conv) (w : Nat) (sz : List Nat) (cells : List (List Num)) (qs : List ℚ)
    (hd : NNDom sz qs) (hlen : cells.length = prod sz) (hfit : prod sz ≤ 2^w) :
    ∃ v i, eval cv (.nn (.strided w .array)) (.thin (.sized sz (.array cells))) (qs.map Num.fin) = .ok (v, [i]) ∧
      i < cells.length := by
  obtain ⟨v, e, h⟩ := strided_array_safe cv w sz (nnPoint qs) cells (nnDom_grid sz qs hd).1 hlen hfit
  exact ⟨v, _, (nn_lattice _ sz qs hd).trans e, h⟩

theorem nn_morton_array_safe (cv : Conv) (sz : List Nat) (cells : List (List Num)) (qs : List ℚ) (k : Nat)
    (hd : NNDom sz qs) (hN : 0 < sz.length) (hk : ∀ s ∈ sz, s ≤ 2^k) (hlen : cells.length = 2^(k * sz.length)) :
    ∃ v i, eval cv (.nn (.mortonF .array)) (.thin (.sized sz (.array cells))) (qs.map Num.fin) = .ok (v, [i]) ∧
      i < cells.length := by
  obtain ⟨v, e, h⟩ := morton_array_safe cv sz (nnPoint qs) cells k (nnDom_grid sz qs hd).1 hN hk hlen
  exact ⟨v, _, (nn_lattice _ sz qs hd).trans e, h⟩

/-- a box `[lo_k, hi_k]` of rationals inside the nearest-neighbour domain of the extents -/
def NNBox : List Nat → List ℚ → List ℚ → Prop
  | [], [], [] => True
  | s :: ss, l :: ls, h :: hs => (-(1/2) < l ∧ l ≤ h ∧ h < (s : ℚ) - 1/2) ∧ NNBox ss ls hs
  | _, _, _ => False

theorem clamp_axis (l h : ℚ) (x : Num) (hx : x.isNan = false) (hlh : l ≤ h) :
    ∃ q, clampNum (.fin l) (.fin h) x = .fin q ∧ l ≤ q ∧ q ≤ h := by
  cases x with
  | fin q => exact ⟨_, C10.clampNum_eq_max_min l h q hlh, le_max_left _ _, max_le hlh (min_le_left _ _)⟩
  | ninf => exact ⟨l, by simp [clampNum, Num.lt], le_refl l, hlh⟩
  | pinf => exact ⟨h, by simp [clampNum, Num.lt], hlh, le_refl h⟩
  | nan => cases hx

theorem clamp_into_nnDom (sz : List Nat) (ls hs : List ℚ) (c : List Num) (hb : NNBox sz ls hs)
    (hc : ∀ x ∈ c, x.isNan = false) (hlen : c.length = sz.length) :
    ∃ qs, zip3With clampNum (ls.map Num.fin) (hs.map Num.fin) c = qs.map Num.fin ∧ NNDom sz qs := by
  fun_induction NNBox sz ls hs generalizing c
  case case1 => exact ⟨[], by rw [List.length_eq_zero_iff.1 hlen]; rfl, trivial⟩
  case case2 s ss l ls h hs ih =>
    obtain ⟨x, xs, rfl⟩ := List.exists_cons_of_length_eq_add_one hlen
    obtain ⟨⟨h0, hlh, h1⟩, ht⟩ := hb
    obtain ⟨qs, hq, hd⟩ := ih xs ht (fun y hy => hc y (List.mem_cons_of_mem _ hy)) (by simpa using hlen)
    obtain ⟨q, hx, hlq, hqh⟩ := clamp_axis l h x (hc x List.mem_cons_self) hlh
    exact ⟨q :: qs, congrArg₂ List.cons hx hq, ⟨lt_of_lt_of_le h0 hlq, lt_of_le_of_lt hqh h1⟩, hd⟩
  case case3 => exact hb.elim

/-- **C10, clamp above nearest-neighbour over a row-major array**: for every NaN-free coordinate whatsoever — extremes
    and infinities included — the lookup reads exactly one cell, inside the storage, and meets no UB condition -/
theorem clamp_nn_strided_array_safe (cv : Conv) (w : Nat) (sz : List Nat) (ls hs : List ℚ) (cells : List (List Num))
    (c : List Num) (hb : NNBox sz ls hs) (hc : ∀ x ∈ c, x.isNan = false) (hl : c.length = sz.length)
    (hlen : cells.length = prod sz) (hfit : prod sz ≤ 2^w) :
    ∃ v i, eval cv (.clamp (.nn (.strided w .array)))
        (.box (ls.map Num.fin) (hs.map Num.fin) (.thin (.sized sz (.array cells)))) c = .ok (v, [i]) ∧
      i < cells.length := by
  obtain ⟨qs, hq, hd⟩ := clamp_into_nnDom sz ls hs c hb hc hl
  obtain ⟨v, i, he, hi⟩ := nn_strided_array_safe cv w sz cells qs hd hlen hfit
  exact ⟨v, i, (congrArg _ hq).trans he, hi⟩

/-! ### the same for the linear interpolator: box inside `[0, extent − 1)` -/
def LinDom : List Nat → List ℚ → Prop
  | [], [] => True
  | s :: ss, q :: qs => (0 ≤ q ∧ q < (s : ℚ) - 1) ∧ LinDom ss qs
  | _, _ => False

def LinBox : List Nat → List ℚ → List ℚ → Prop
  | [], [], [] => True
  | s :: ss, l :: ls, h :: hs => (0 ≤ l ∧ l ≤ h ∧ h < (s : ℚ) - 1) ∧ LinBox ss ls hs
  | _, _, _ => False

theorem floor_succ_lt (q : ℚ) (s : ℕ) (h0 : 0 ≤ q) (h1 : q < (s : ℚ) - 1) : q.floor.toNat + 1 < s := by
  have hf0 : 0 ≤ q.floor := Rat.le_floor_iff.2 (by rwa [Int.cast_zero])
  have hf1 : q.floor + 1 < (s : ℤ) := by
    rw [← Rat.floor_add_one, Rat.floor_lt_iff, Int.cast_natCast]; exact lt_sub_iff_add_lt.1 h1
  omega

theorem linDom_grid (sz : List Nat) (qs : List ℚ) (h : LinDom sz qs) :
    (∀ q ∈ qs, 0 ≤ q) ∧ InBox sz (qs.map fun q => q.floor.toNat + 1) := by
  fun_induction LinDom sz qs
  case case1 => exact ⟨nofun, trivial⟩
  case case2 s ss q qs ih =>
    exact ⟨List.forall_mem_cons.2 ⟨h.1.1, (ih h.2).1⟩, floor_succ_lt q s h.1.1 h.1.2, (ih h.2).2⟩
  case case3 => exact h.elim

theorem clamp_into_linDom (sz : List Nat) (ls hs : List ℚ) (c : List Num) (hb : LinBox sz ls hs)
    (hc : ∀ x ∈ c, x.isNan = false) (hlen : c.length = sz.length) :
    ∃ qs, zip3With clampNum (ls.map Num.fin) (hs.map Num.fin) c = qs.map Num.fin ∧ LinDom sz qs := by
  fun_induction LinBox sz ls hs generalizing c
  case case1 => exact ⟨[], by rw [List.length_eq_zero_iff.1 hlen]; rfl, trivial⟩
  case case2 s ss l ls h hs ih =>
    obtain ⟨x, xs, rfl⟩ := List.exists_cons_of_length_eq_add_one hlen
    obtain ⟨⟨h0, hlh, h1⟩, ht⟩ := hb
    obtain ⟨qs, hq, hd⟩ := ih xs ht (fun y hy => hc y (List.mem_cons_of_mem _ hy)) (by simpa using hlen)
    obtain ⟨q, hx, hlq, hqh⟩ := clamp_axis l h x (hc x List.mem_cons_self) hlh
    exact ⟨q :: qs, congrArg₂ List.cons hx hq, ⟨le_trans h0 hlq, lt_of_le_of_lt hqh h1⟩, hd⟩
  case case3 => exact hb.elim

/-- **C10, clamp above linear over a row-major array**: every NaN-free coordinate is safe; all `2^N` cells read lie
    inside the storage -/
theorem clamp_linear_strided_array_safe (cv : Conv) (w : Nat) (sz : List Nat) (ls hs : List ℚ)
    (cells : List (List Num)) (c : List Num) (hb : LinBox sz ls hs) (hc : ∀ x ∈ c, x.isNan = false)
    (hl : c.length = sz.length) (hlen : cells.length = prod sz) (hfit : prod sz ≤ 2^w) :
    ∃ v t, eval cv (.clamp (.linear (.strided w .array)))
        (.box (ls.map Num.fin) (hs.map Num.fin) (.thin (.sized sz (.array cells)))) c = .ok (v, t) ∧
      ∀ i ∈ t, i < cells.length := by
  obtain ⟨qs, hq, hd⟩ := clamp_into_linDom sz ls hs c hb hc hl
  obtain ⟨h0, hbox⟩ := linDom_grid sz qs hd
  obtain ⟨v, t, he, ht⟩ := linear_strided_array_safe cv w sz cells (qs.map Num.fin) _ (C10.truncIdx_ok qs h0)
    (by rw [List.map_map, List.map_map]; exact hbox) hlen hfit
  exact ⟨v, t, (congrArg _ hq).trans he, ht⟩

example : LinBox [3] [0] [3/2] := by
  refine ⟨⟨by norm_num, by norm_num, by norm_num⟩, trivial⟩

/-- non-vacuity: the hypotheses are satisfiable (3 cells, box [0, 2]) … -/
example : NNBox [3] [0] [2] := by
  refine ⟨⟨by norm_num, by norm_num, by norm_num⟩, trivial⟩
-- … and the model evaluates the coordinate +∞ to the last cell
#guard (eval (fun x => .ok x) (.clamp (.nn (.strided 64 .array)))
    (.box [.fin 0] [.fin 2] (.thin (.sized [3] (.array [[.fin 10], [.fin 20], [.fin 30]])))) [.pinf])
    matches .ok ([.fin 30], [2])

end Covfie.C15
