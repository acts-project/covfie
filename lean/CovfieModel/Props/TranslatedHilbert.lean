import CovfieModel.Props.Translated
import CovfieModel.Lemmas.Hilbert
/-! # The translated Hilbert index (`hilbert::calculate_index` with `rot` inlined) is the model's `hilbertIdx` -/
namespace Covfie.Imp

-- `Ref.hilbert_index`: variables 0 `ret`, 1 `rx`, 2 `ry`, 3 `s`, 4 `d`, 5 `x`, 6 `y`, 7 `n`, 8 `rot.t`; arrays 0 `c`, 1 `sizes`
/-- `rot` as inlined in the kernel (the swap goes through `rot.t`) -/
def hilRot : Stmt :=
  .ite (.bin .eq .S (.var 2) (.lit 0))
    (.seq
      (.ite (.bin .eq .S (.var 1) (.lit 1))
        (.seq
          (.assign 5 .S (.bin .sub .S (.bin .sub .S (.var 7) (.lit 1)) (.var 5)))
          (.assign 6 .S (.bin .sub .S (.bin .sub .S (.var 7) (.lit 1)) (.var 6))))
        .skip)
      (.seq (.assign 8 .S (.var 5)) (.seq (.assign 5 .S (.var 6)) (.assign 6 .S (.var 8)))))
    .skip

def hilBody : Stmt :=
  .seq
    (.seq (.assign 1 .S (.bin .gt .S (.bin .band .S (.var 5) (.var 3)) (.lit 0)))
      (.seq (.assign 2 .S (.bin .gt .S (.bin .band .S (.var 6) (.var 3)) (.lit 0)))
        (.seq
          (.assign 4 .S (.bin .add .S (.var 4)
            (.bin .mul .S (.bin .mul .S (.var 3) (.var 3)) (.bin .bxor .S (.bin .mul .S (.lit 3) (.var 1)) (.var 2)))))
          hilRot)))
    (.assign 3 .S (.bin .div .S (.var 3) (.lit 2)))

def hilGrow : Stmt := .assign 7 .S (.bin .mul .S (.var 7) (.lit 2))

theorem hil_shape : Ref.hilbert_index =
    .seq (.assign 4 .S (.lit 0))
      (.seq (.assign 5 .S (.idx 0 (.lit 0)))
        (.seq (.assign 6 .S (.idx 0 (.lit 1)))
          (.seq (.assign 7 .S (.lit 1))
            (.seq
              (.while (.bin .lor .S (.bin .lt .S (.var 7) (.idx 1 (.lit 0))) (.bin .lt .S (.var 7) (.idx 1 (.lit 1)))) hilGrow)
              (.seq
                (.seq (.assign 3 .S (.bin .div .S (.var 7) (.lit 2))) (.while (.bin .gt .S (.var 3) (.lit 0)) hilBody))
                (.assign 0 .S (.var 4))))))) := rfl

theorem hil_rot (F r0 rx ry s d x y n t : Nat) (ar : List (List Nat)) (hx : x < n) (hy : y < n) (hn : n < 2^64) :
    exec 64 F hilRot ⟨[r0, rx, ry, s, d, x, y, n, t], ar⟩
      = some ⟨[r0, rx, ry, s, d, (rot n x y rx ry).1, (rot n x y rx ry).2, n,
          if ry = 0 then (rot n x y rx ry).2 else t], ar⟩ := by
  have hn1 : n - 1 < 2^64 := Nat.lt_of_le_of_lt (Nat.sub_le n 1) hn
  unfold rot
  by_cases hry : ry = 0
  · by_cases hrx : rx = 1
    · simp -implicitDefEqProofs only [imp_exec, hilRot, hry, hrx, if_true, sub_nowrap (Nat.zero_lt_of_lt hx) hn,
        sub_nowrap (Nat.le_sub_one_of_lt hx) hn1, sub_nowrap (Nat.le_sub_one_of_lt hy) hn1,
        Nat.mod_eq_of_lt (Nat.lt_of_le_of_lt (Nat.sub_le (n - 1) x) hn1),
        Nat.mod_eq_of_lt (Nat.lt_of_le_of_lt (Nat.sub_le (n - 1) y) hn1)]
    · simp -implicitDefEqProofs only [imp_exec, hilRot, hry, hrx, if_true, if_false, Nat.mod_eq_of_lt (Nat.lt_trans hx hn),
        Nat.mod_eq_of_lt (Nat.lt_trans hy hn)]
  · simp -implicitDefEqProofs only [imp_exec, hilRot, hry, if_false]

structure HS where
  rx : Nat
  ry : Nat
  s : Nat
  d : Nat
  x : Nat
  y : Nat
  t : Nat

def hsEnv (r0 n : Nat) (ar : List (List Nat)) (a : HS) : Env := ⟨[r0, a.rx, a.ry, a.s, a.d, a.x, a.y, n, a.t], ar⟩

/-- one pass of the main loop: the step of the model's `hilLoop` on `s, x, y, d`, and what it leaves in `rx`, `ry`, `rot.t` -/
def hsStep (n : Nat) (a : HS) : HS :=
  let rx := b2n (a.x &&& a.s > 0)
  let ry := b2n (a.y &&& a.s > 0)
  let p := rot n a.x a.y rx ry
  { rx := rx, ry := ry, s := a.s / 2, d := a.d + a.s * a.s * ((3 * rx) ^^^ ry), x := p.1, y := p.2,
    t := if ry = 0 then p.2 else a.t }

/-- the point is inside the square of side `n`, and the `4 s²` cells of the quadrant still to be resolved fit below `n²` -/
def hsInv (n : Nat) (a : HS) : Prop := a.x < n ∧ a.y < n ∧ a.d + 4 * (a.s * a.s) ≤ n * n ∧ a.d < n * n

theorem b2n_xor_le (bx by_ : Bool) : 3 * b2n bx ^^^ b2n by_ ≤ 3 := by cases bx <;> cases by_ <;> decide

theorem four_half_sq_le (s : Nat) : 4 * (s / 2 * (s / 2)) ≤ s * s := by
  have h := Nat.mul_le_mul (Nat.mul_div_le s 2) (Nat.mul_div_le s 2)
  rwa [Nat.mul_mul_mul_comm] at h

/-- the arithmetic of one pass, with `q = (3 * rx) ^ ry`: below a bound `m` of `d + 4 s²` nothing wraps in
`d += s * s * q`, and the bound holds again for `s / 2` -/
theorem hil_arith {s d q m : Nat} (hs : 0 < s) (hd : d + 4 * (s * s) ≤ m) (hq : q ≤ 3) :
    s < m ∧ s * s < m ∧ s * s * q < m ∧ d + s * s * q < m ∧ d + s * s * q + 4 * (s / 2 * (s / 2)) ≤ m := by
  have := Nat.mul_le_mul_left (s * s) hq
  have := Nat.mul_le_mul_left s hs
  have := four_half_sq_le s
  omega

theorem hil_sq_le (n : Nat) (hn : n ≤ 2^32) : n * n ≤ 2^64 := Nat.le_trans (Nat.mul_le_mul hn hn) (by decide)

theorem hil_body (F r0 n : Nat) (ar : List (List Nat)) (a : HS) (hn : n ≤ 2^32) (hP : hsInv n a) (hs : a.s > 0) :
    exec 64 F hilBody (hsEnv r0 n ar a) = some (hsEnv r0 n ar (hsStep n a)) := by
  obtain ⟨hx, hy, hd, _⟩ := hP
  have hq := b2n_xor_le (a.x &&& a.s > 0) (a.y &&& a.s > 0)
  obtain ⟨h1, h2, h3, h4, _⟩ := hil_arith hs (Nat.le_trans hd (hil_sq_le n hn)) hq
  have small : ∀ {v : Nat}, v ≤ 3 → v % 2^64 = v := fun h => Nat.mod_eq_of_lt (Nat.lt_of_le_of_lt h (by decide))
  simp -implicitDefEqProofs only [imp_exec, hilBody, hsEnv, hsStep, small (Nat.le_trans (b2n_le_one _) (by decide)),
    small (Nat.mul_le_mul_left 3 (b2n_le_one (a.x &&& a.s > 0))), small hq, Nat.mod_eq_of_lt h2, Nat.mod_eq_of_lt h3,
    Nat.mod_eq_of_lt h4, Nat.mod_eq_of_lt (Nat.lt_of_le_of_lt (Nat.div_le_self a.s 2) h1),
    hil_rot F r0 _ _ _ _ _ _ n _ ar hx hy (Nat.lt_of_le_of_lt hn (by decide))]

theorem hsInv_step (n : Nat) (a : HS) (hP : hsInv n a) (hs : a.s > 0) : hsInv n (hsStep n a) := by
  obtain ⟨hx, hy, hd, _⟩ := hP
  obtain ⟨_, _, _, h4, h5⟩ := hil_arith hs hd (b2n_xor_le (a.x &&& a.s > 0) (a.y &&& a.s > 0))
  obtain ⟨r1, r2, -⟩ := rot_mod 1 n a.x a.y (b2n (a.x &&& a.s > 0)) (b2n (a.y &&& a.s > 0)) Nat.one_pos (Nat.one_dvd n) hx hy
  exact ⟨r1, r2, h5, h4⟩

theorem hil_main (r0 n : Nat) (ar : List (List Nat)) (a : HS) (hn : n ≤ 2^32) (hP : hsInv n a) :
    ∃ a', exec 64 65 (.while (.bin .gt .S (.var 3) (.lit 0)) hilBody) (hsEnv r0 n ar a) = some (hsEnv r0 n ar a')
      ∧ a'.d = hilLoop n 65 a.s a.x a.y a.d ∧ a'.d < 2^64 := by
  have hstep := fun a hP (hc : decide (a.s ≠ 0) = true) => hsInv_step n a hP (Nat.pos_of_ne_zero (of_decide_eq_true hc))
  have hs : a.s < 2^64 := by have := Nat.le_mul_self a.s; have := hP.2.2.1; have := hil_sq_le n hn; omega
  obtain ⟨a', hit, hd⟩ := iter_halving HS.s (hsStep n) (fun f a => hilLoop n f a.s a.x a.y a.d) HS.d (fun _ => rfl)
    (fun f a => by simp only [hilLoop, hsStep, b2n, decide_eq_true_eq]) 64 a hs
  refine ⟨a', ?_, hd.symm, Nat.lt_of_lt_of_le (iter_inv _ _ (hsInv n) hstep _ _ _ hP hit).1.2.2.2 (hil_sq_le n hn)⟩
  rw [exec_while_sim 64 65 _ hilBody (abs := hsEnv r0 n ar) (P := hsInv n) (cA := fun a => decide (a.s ≠ 0)) (step := hsStep n)
    (hc := by intro a _; simp [eval, evalBin, hsEnv, Nat.pos_iff_ne_zero])
    (hb := fun a hP hc => hil_body 65 r0 n _ a hn hP (Nat.pos_of_ne_zero (of_decide_eq_true hc))) (hP := hstep) a hP, hit]
  rfl

/-- the doubling loop `while (n < sizes[0] || n < sizes[1]) n *= 2` is `roundPow2` at 64 bits -/
theorem hil_grow (r0 rx ry s d x y t sx sy : Nat) (c : List Nat) :
    exec 64 65 (.while (.bin .lor .S (.bin .lt .S (.var 7) (.idx 1 (.lit 0))) (.bin .lt .S (.var 7) (.idx 1 (.lit 1)))) hilGrow)
        ⟨[r0, rx, ry, s, d, x, y, 1, t], [c, [sx, sy]]⟩
      = (roundPow2 64 (max sx sy)).map fun n => ⟨[r0, rx, ry, s, d, x, y, n, t], [c, [sx, sy]]⟩ := by
  rw [exec_while_sim 64 65 _ hilGrow (abs := fun n => ⟨[r0, rx, ry, s, d, x, y, n, t], [c, [sx, sy]]⟩) (P := fun _ => True)
    (cA := fun n => decide (n < max sx sy)) (step := fun n => n * 2 % 2^64)
    (hc := by intro n _; simp -implicitDefEqProofs only [imp_exec]; omega)
    (hb := by intro n _ _; simp -implicitDefEqProofs only [imp_exec, hilGrow]) (hP := by intros; trivial) 1 trivial, rp2_iter]
  rfl

theorem hsInv_init (n x y rx ry t : Nat) (hx : x < n) (hy : y < n) : hsInv n ⟨rx, ry, n / 2, 0, x, y, t⟩ :=
  ⟨hx, hy, by simpa using four_half_sq_le n, Nat.mul_pos (Nat.zero_lt_of_lt hx) (Nat.zero_lt_of_lt hx)⟩

theorem hil_exec (sx sy x y n : Nat) (hk : roundPow2 64 (max sx sy) = some n) (hn : n ≤ 2^32) (hx : x < n) (hy : y < n)
    (r0 rx0 ry0 s0 d0 x0 y0 n0 t0 : Nat) :
    ∃ env', exec 64 65 Ref.hilbert_index ⟨[r0, rx0, ry0, s0, d0, x0, y0, n0, t0], [[x, y], [sx, sy]]⟩ = some env'
      ∧ env'.sc.getD 0 0 = hilLoop n 65 (n / 2) x y 0 := by
  have hn64 : n < 2^64 := Nat.lt_of_le_of_lt hn (by decide)
  obtain ⟨a', hex, hd, hd64⟩ := hil_main r0 n [[x, y], [sx, sy]] _ hn (hsInv_init n x y rx0 ry0 t0 hx hy)
  refine ⟨hsEnv a'.d n [[x, y], [sx, sy]] a', ?_, hd⟩
  rw [hil_shape]
  simp -implicitDefEqProofs only [imp_exec, Nat.mod_eq_of_lt (Nat.lt_trans hx hn64), Nat.mod_eq_of_lt (Nat.lt_trans hy hn64)]
  rw [hil_grow, hk]
  simp -implicitDefEqProofs only [imp_exec, Option.map_some, Nat.mod_eq_of_lt (Nat.lt_of_le_of_lt (Nat.div_le_self n 2) hn64)]
  rw [show (⟨[r0, rx0, ry0, n / 2, 0, x, y, n, t0], [[x, y], [sx, sy]]⟩ : Env)
    = hsEnv r0 n [[x, y], [sx, sy]] ⟨rx0, ry0, n / 2, 0, x, y, t0⟩ from rfl, hex]
  simp -implicitDefEqProofs only [imp_exec, hsEnv, Nat.mod_eq_of_lt hd64]

/-- `hilbert::calculate_index` (with `rot` inlined) as written in `hilbert.hpp`, executed on 64-bit words, returns the
model's `hilbertIdx` for every field whose extents are at most 2^32 and every coordinate inside the curve's square. -/
theorem hilbert_index_translated (sx sy x y : Nat) (hmax : max sx sy ≤ 2^32)
    (hx : x < hilN sx sy) (hy : y < hilN sx sy) (r0 rx0 ry0 s0 d0 x0 y0 n0 t0 : Nat) :
    ∃ env', exec 64 65 Ref.hilbert_index ⟨[r0, rx0, ry0, s0, d0, x0, y0, n0, t0], [[x, y], [sx, sy]]⟩ = some env'
      ∧ env'.sc.getD 0 0 = hilbertIdx [sx, sy] [x, y] := by
  obtain ⟨k, hk, _, hleast, _⟩ := roundPow2_spec' 64 (max sx sy) (by decide)
    (Nat.le_trans hmax (Nat.pow_le_pow_right (by decide) (by decide)))
  have hN : hilN sx sy = 2^k := by rw [hilN, hk]; rfl
  rw [hN] at hx hy
  rw [hilbertIdx]
  simp only [List.getD_cons_zero, List.getD_cons_succ, hN]
  exact hil_exec sx sy x y (2^k) hk (Nat.pow_le_pow_right (by decide) (hleast 32 hmax)) hx hy r0 rx0 ry0 s0 d0 x0 y0 n0 t0

end Covfie.Imp
