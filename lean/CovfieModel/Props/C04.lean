import CovfieModel.Model.Interp
import CovfieModel.Model.Stack
import CovfieModel.Lemmas.Stack
import Mathlib.Tactic.Linarith
import Mathlib.Algebra.Order.Floor.Ring
import Mathlib.Data.Rat.Floor
/-! # C04 — Nearest-neighbour lookup returns the value at a closest lattice point -/
namespace Covfie.C04

theorem nnRound_cases (q : ℚ) :
    (nnRound q = ⌊q⌋ ∧ q - ⌊q⌋ ≤ 1/2) ∨ (nnRound q = ⌊q⌋ + 1 ∧ 1/2 ≤ q - ⌊q⌋) := by
  unfold nnRound
  simp only []
  split_ifs with h1 h2 h3
  · exact .inl ⟨rfl, h1.le⟩
  · exact .inr ⟨rfl, h2.le⟩
  · exact .inl ⟨rfl, not_lt.mp h2⟩
  · exact .inr ⟨rfl, not_lt.mp h1⟩

/-- every component of the chosen lattice point lies within one half of the coordinate component -/
theorem nnRound_half (q : ℚ) : |q - (nnRound q : ℚ)| ≤ 1/2 := by
  have h0 : 0 ≤ q - ⌊q⌋ := Int.fract_nonneg q
  have h1 : q - ⌊q⌋ ≤ 1 := (Int.fract_lt_one q).le
  rcases nnRound_cases q with ⟨e, h⟩ | ⟨e, h⟩
  · rwa [e, abs_of_nonneg h0]
  · rw [e, Int.cast_add, Int.cast_one, ← sub_sub, abs_sub_comm, abs_of_nonneg (sub_nonneg.mpr h1), sub_le_comm, sub_half]
    exact h

theorem allowed_iff (q : ℚ) (r : ℤ) : |q - (r : ℚ)| ≤ 1/2 ↔ (q - 1/2 ≤ (r : ℚ) ∧ (r : ℚ) ≤ q + 1/2) :=
  abs_sub_le_iff.trans (and_congr sub_le_comm sub_le_iff_le_add')

/-- holds of every result the property allows (either neighbour at a tie), not only of round-half-even -/
theorem near_mem_Ico {q : ℚ} {r lo hi : ℤ} (hr : |q - (r : ℚ)| ≤ 1/2) (h0 : (lo : ℚ) - 1/2 < q) (h1 : q < (hi : ℚ) - 1/2) :
    lo ≤ r ∧ r < hi := by
  obtain ⟨h2, h3⟩ := (allowed_iff q r).mp hr
  have h4 := (sub_lt_sub_right h0 (1/2)).trans_le h2
  rw [sub_sub, add_halves, ← Int.cast_one, ← Int.cast_sub, Int.cast_lt] at h4
  exact ⟨Int.sub_one_lt_iff.mp h4, Int.cast_lt.mp (h3.trans_lt (lt_sub_iff_add_lt.mp h1))⟩

/-- for −½ < c < extent − ½ the chosen index is inside the grid -/
theorem nnRound_in_grid (q : ℚ) (n : ℕ) (h0 : -(1/2) < q) (h1 : q < (n : ℚ) - 1/2) :
    0 ≤ nnRound q ∧ nnRound q < (n : ℤ) :=
  near_mem_Ico (nnRound_half q) (by rwa [Int.cast_zero, zero_sub]) (by rwa [Int.cast_natCast])

-- evaluation checks (tests, not theorems): ties go to the even neighbour
#guard nnRound (5/2) = 2 && nnRound (7/2) = 4 && nnRound (-1/2) = 0 && nnRound (12/5) = 2

theorem mapE_lrintIdx (qs : List ℚ) (h : ∀ q ∈ qs, 0 ≤ nnRound q) :
    mapE lrintIdx (qs.map Num.fin) = .ok (qs.map fun q => Num.fin ((nnRound q : Int) : ℚ)) :=
  mapE_map_ok fun q hq => by simp [lrintIdx, h q hq]

/-- `nearest_neighbour<B>::at`: the backend is queried at the lattice point `nnRound c` (component-wise), and every
    component of that lattice point lies within one half of the coordinate component -/
theorem nn_eval (bk : Backend) (qs : List ℚ) (h : ∀ q ∈ qs, 0 ≤ nnRound q) :
    nnL bk (qs.map Num.fin) = bk (qs.map fun q => Num.fin ((nnRound q : Int) : ℚ)) ∧
    ∀ q ∈ qs, |q - (nnRound q : ℚ)| ≤ 1/2 := by
  refine ⟨?_, fun q _ => nnRound_half q⟩
  unfold nnL
  rw [mapE_lrintIdx qs h]

/-- the lattice point is unique away from the ties: a coordinate strictly within one half of an integer rounds to that integer
    (what the exhaustive narrow-index sweeps of the harness use: cell `k` answers `k`, `k ± ¼`) -/
theorem nnRound_eq_of_near (q : ℚ) (k : ℤ) (h : |q - (k : ℚ)| < 1/2) : nnRound q = k := by
  obtain ⟨h1, h2⟩ := abs_sub_lt_iff.mp h
  obtain ⟨h3, h4⟩ := near_mem_Ico (hi := k + 1) (nnRound_half q) (sub_lt_comm.mp h2)
    (by rw [Int.cast_add, Int.cast_one, add_sub_assoc, sub_half]; exact sub_lt_iff_lt_add'.mp h1)
  exact le_antisymm (Int.lt_add_one_iff.mp h4) h3
end Covfie.C04
