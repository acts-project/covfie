import CovfieModel.Props.CodeAsWrittenIO
/-! C06 / C08 for every stack, stated about the recognised statements of every layer's `write_binary` / `read_binary`. -/
namespace Covfie.Code
open Covfie.IO

/-- the script shape the three storage orders share (`Covfie.IO.sized_scripts`) -/
def sizedScript (t : Nat) : Script := ⟨t, [.hdr, .field .sizes, .inner, .ftr], [.hdr, .field .sizes, .inner, .ftr]⟩

theorem sizedScript_refs : sizedScript T_STRIDED = Ref.strided ∧ sizedScript T_MORTON = Ref.morton ∧ sizedScript T_HILBERT = Ref.hilbert := by
  decide

/-- the writers as written, layer by layer: each layer's script, with the layer below as its inner part -/
def dumpS : Ty → Dat → List Byte
  | .array M, .array wd count cells => awr M wd count cells ARef.write
  | .constant sz _, .constant v => wr Ref.constant.tag Ref.constant.write [words sz v] []
  | .identity, .identity => wr Ref.identity.tag Ref.identity.write [] []
  | .sized t _ b, .sized cfg d => wr t (sizedScript t).write [words 8 cfg] (dumpS b d)
  | .clamp sz _ b, .clamp lo hi d => wr Ref.clamp.tag Ref.clamp.write [words sz lo, words sz hi] (dumpS b d)
  | .backup sz _ osz _ b, .backup lo hi df d =>
      wr Ref.backup.tag Ref.backup.write [words sz lo, words sz hi, words osz df] (dumpS b d)
  | .affine sz _ b, .affine m d => wr Ref.affine.tag Ref.affine.write [words sz m] (dumpS b d)
  | .thin b, .thin d => wr Ref.thin.tag Ref.thin.write [] (dumpS b d)
  | _, _ => []

/-- the readers as written -/
def loadS : Ty → Parser Dat
  | .array M => ard M ARef.read 0 0 []
  | .constant sz M => bindP (rdS Ref.constant.tag Ref.constant.read [readN (rd sz) M] (pureP .identity)) fun r =>
      match r with | ([v], none) => pureP (.constant v) | _ => failP .truncated
  | .identity => bindP (rdS Ref.identity.tag Ref.identity.read [] (pureP .identity)) fun r =>
      match r with | ([], none) => pureP .identity | _ => failP .truncated
  | .sized t N b => bindP (rdS t (sizedScript t).read [readN (rd 8) N] (loadS b)) fun r =>
      match r with | ([cfg], some d) => pureP (.sized cfg d) | _ => failP .truncated
  | .clamp sz N b => bindP (rdS Ref.clamp.tag Ref.clamp.read [readN (rd sz) N, readN (rd sz) N] (loadS b)) fun r =>
      match r with | ([lo, hi], some d) => pureP (.clamp lo hi d) | _ => failP .truncated
  | .backup sz N osz M b =>
      bindP (rdS Ref.backup.tag Ref.backup.read [readN (rd sz) N, readN (rd sz) N, readN (rd osz) M] (loadS b)) fun r =>
      match r with | ([lo, hi, df], some d) => pureP (.backup lo hi df d) | _ => failP .truncated
  | .affine sz N b => bindP (rdS Ref.affine.tag Ref.affine.read [readN (rd sz) (N * (N + 1))] (loadS b)) fun r =>
      match r with | ([m], some d) => pureP (.affine m d) | _ => failP .truncated
  | .thin b => bindP (rdS Ref.thin.tag Ref.thin.read [] (loadS b)) fun r =>
      match r with | ([], some d) => pureP (.thin d) | _ => failP .truncated

theorem loadS_eq : ∀ ty : Ty, loadS ty = loadB ty
  | .array M => (load_array M 0 0 []).symm
  | .constant sz M => (load_constant sz M).symm
  | .identity => load_identity.symm
  | .sized t N b => by
      rw [loadS, loadS_eq b]; exact (load_sized (sizedScript t) rfl N b).symm
  | .clamp sz N b => by rw [loadS, loadS_eq b]; exact (load_clamp sz N b).symm
  | .backup sz N osz M b => by rw [loadS, loadS_eq b]; exact (load_backup sz N osz M b).symm
  | .affine sz N b => by rw [loadS, loadS_eq b]; exact (load_affine sz N b).symm
  | .thin b => by rw [loadS, loadS_eq b]; exact (load_thin b).symm

theorem dumpS_eq : ∀ (ty : Ty) (d : Dat), WF ty d → dumpS ty d = dumpB ty d :=
  WF.ind
    (array := fun M wd count cells h => (dump_array M wd count cells h.2.2.1).symm)
    (constant := fun sz M v _ => (dump_constant sz M v).symm)
    (identity := dump_identity.symm)
    (sized := fun t N b cfg d _ ih => by rw [dumpS, ih]; exact (dump_sized (sizedScript t) rfl N b cfg d).symm)
    (clamp := fun sz N b lo hi d _ ih => by rw [dumpS, ih]; exact (dump_clamp sz N b lo hi d).symm)
    (backup := fun sz N osz M b lo hi df d _ ih => by rw [dumpS, ih]; exact (dump_backup sz N osz M b lo hi df d).symm)
    (affine := fun sz N b m d _ ih => by rw [dumpS, ih]; exact (dump_affine sz N b m d).symm)
    (thin := fun b d _ ih => by rw [dumpS, ih]; exact (dump_thin b d).symm)

/-- `field::dump` as written around the stack's writers as written -/
def dumpField (ty : Ty) (d : Dat) : List Byte := wr Ref.field.tag Ref.field.write [] (dumpS ty d)
/-- `field(std::istream&)` as written around the stack's readers as written -/
def loadField (ty : Ty) : Parser Dat :=
  bindP (rdS Ref.field.tag Ref.field.read [] (loadS ty)) fun r =>
    match r with | ([], some d) => pureP d | _ => failP .truncated

theorem loadField_eq (ty : Ty) : loadField ty = load ty := by rw [load_field, ← loadS_eq]; rfl
theorem dumpField_eq (ty : Ty) (d : Dat) (h : WF ty d) : dumpField ty d = dump ty d := by
  rw [dump_field, ← dumpS_eq ty d h]; rfl

/-- C06 (code as written, every stack): the readers' statements applied to what the writers' statements produce, followed by
anything, return every layer's configuration and the stored words unchanged and leave the rest of the stream. -/
theorem stack_roundtrip (ty : Ty) (d : Dat) (rest : List Byte) (h : WF ty d) :
    loadField ty (dumpField ty d ++ rest) = .ok (d, rest) := by
  rw [loadField_eq, dumpField_eq ty d h]; exact Covfie.C06.load_dump ty d rest h

/-- C08 (code as written, every stack): every proper prefix of what the writers' statements produce is rejected. -/
theorem stack_prefix_rejected (ty : Ty) (d : Dat) (h : WF ty d) (n : Nat) (hn : n < (dumpField ty d).length) :
    ∀ a r, loadField ty ((dumpField ty d).take n) ≠ .ok (a, r) := by
  rw [loadField_eq, dumpField_eq ty d h] at *
  exact Covfie.C08.load_prefix_rejects ty d h n hn

/-- C08 (code as written, every stack): a dump in which one header / footer word or the float-width word (to a value other than 4
and 8) has been altered is rejected by the readers' statements, whatever follows it in the stream. -/
theorem stack_altered_rejected (ty : Ty) (d : Dat) (bs : List Byte) (h : WF ty d) (ha : Covfie.C08.FieldAlt ty d bs)
    (rest : List Byte) : IsErr (loadField ty (bs ++ rest)) := by
  rw [loadField_eq]; exact Covfie.C08.load_altered_rejects ty d bs h ha rest

/-- C08 (code as written): what the writers' statements of one stack produce is rejected by the readers' statements of a stack
whose serialised layers diverge from it. -/
theorem stack_incompatible_rejected (ty ty' : Ty) (hd : Covfie.C08.Diverge ty ty') (d : Dat) (h : WF ty d) (rest : List Byte) :
    IsErr (loadField ty' (dumpField ty d ++ rest)) := by
  rw [loadField_eq, dumpField_eq ty d h]; exact Covfie.C08.load_incompatible_rejects ty ty' hd d h rest

/-- C06 (code as written): two fields written one after the other into one stream are read back one after the other. -/
theorem stack_two_in_a_stream (ty₁ ty₂ : Ty) (d₁ d₂ : Dat) (rest : List Byte) (h₁ : WF ty₁ d₁) (h₂ : WF ty₂ d₂) :
    loadField ty₁ (dumpField ty₁ d₁ ++ (dumpField ty₂ d₂ ++ rest)) = .ok (d₁, dumpField ty₂ d₂ ++ rest)
      ∧ loadField ty₂ (dumpField ty₂ d₂ ++ rest) = .ok (d₂, rest) :=
  ⟨stack_roundtrip ty₁ d₁ _ h₁, stack_roundtrip ty₂ d₂ rest h₂⟩

end Covfie.Code
