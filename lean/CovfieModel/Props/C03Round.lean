import CovfieModel.Props.C03
import Mathlib.Tactic.Linarith
import Mathlib.Tactic.Ring
import Mathlib.Tactic.Positivity
import Mathlib.Algebra.Order.AbsoluteValue.Basic
/-! # C03 — "up to floating-point rounding", proved under the standard model of floating-point arithmetic

The code-shaped sums `lin1`, `lin2`, `lin3`, `linGeneric`, `linGenericC` of `Model/Interp.lean` are polymorphic in the scalar.
At `Fl rnd` — rationals whose `+`, `−`, `*` apply a rounding function `rnd` after every operation — they are the
floating-point evaluation of `linear.hpp`'s expressions, operation for operation (`ra = 1 − a` rounded once,
`ra * rb * pc[0] + ra * b * pc[1] + …` left to right).  Under the standard model

    StdModel u rnd :  0 ≤ u  ∧  ∀ x, |rnd x − x| ≤ u·|x|            (no underflow, no overflow)

`Approx u rnd x q m k` says that the rounded quantity `x` is within `((1+u)^k − 1)·m` of the exact `q`, and `|q| ≤ m`.  It holds
of a literal with `k = 0`, and one rule per operation of the code carries it through a computation: `k` counts the roundings
along the deepest path, `m` is the same computation on absolute values.  For the interpolator `m = Σ_n |w_n v_n| = nlinAbs`,
and `k` is 3 / 7 / 13 for the 1-, 2-, 3-D branch and `2N + 2^N + 1` for the generic branch — below the `k = 2N + 2^N + 3` the
judge of the correspondence check uses, whose `γ_k = k·u / (1 − k·u)` dominates `(1+u)^k − 1` (`gamma_bound`).
`Ex` is a syntax for such computations over exact literals: `eval_bound` is the same bound stated once for every expression,
and `fl_eq_exact_of_fixed` says that where every intermediate result is representable (`Ex.AllFixed`) the rounded evaluation
is the exact one — what the exact input streams of the correspondence rely on.

Partial: the subnormal range (where the relative-error model fails and the judge adds `k · tiny · max(1, Σ|v|)`), the two
precision conversions around the sum (two more roundings: hence the `+ 3` of the judge) and the generic branch's
accumulation in the *value* type when that is narrower than the coordinate type are argued, and checked by the
correspondence, not proved here. -/
namespace Covfie.C03
open Covfie

/-- rationals with an arithmetic that rounds after every operation -/
structure Fl (rnd : ℚ → ℚ) where
  val : ℚ

instance (rnd : ℚ → ℚ) : Add (Fl rnd) := ⟨fun x y => ⟨rnd (x.val + y.val)⟩⟩
instance (rnd : ℚ → ℚ) : Sub (Fl rnd) := ⟨fun x y => ⟨rnd (x.val - y.val)⟩⟩
instance (rnd : ℚ → ℚ) : Mul (Fl rnd) := ⟨fun x y => ⟨rnd (x.val * y.val)⟩⟩
instance (rnd : ℚ → ℚ) : OfNat (Fl rnd) 1 := ⟨⟨1⟩⟩
instance (rnd : ℚ → ℚ) : OfNat (Fl rnd) 0 := ⟨⟨0⟩⟩

namespace Fl
variable {rnd : ℚ → ℚ} (x y : Fl rnd)
@[simp] theorem val_add : (x + y).val = rnd (x.val + y.val) := rfl
@[simp] theorem val_sub : (x - y).val = rnd (x.val - y.val) := rfl
@[simp] theorem val_mul : (x * y).val = rnd (x.val * y.val) := rfl
@[simp] theorem val_one : (1 : Fl rnd).val = 1 := rfl
@[simp] theorem val_zero : (0 : Fl rnd).val = 0 := rfl
end Fl

/-- the standard model of floating-point arithmetic (relative error `u` per operation) -/
def StdModel (u : ℚ) (rnd : ℚ → ℚ) : Prop := 0 ≤ u ∧ ∀ x, |rnd x - x| ≤ u * |x|

/-- accumulated relative error of `j` roundings -/
def g (u : ℚ) (j : ℕ) : ℚ := (1 + u) ^ j - 1

theorem g_nonneg (u : ℚ) (hu : 0 ≤ u) (j : ℕ) : 0 ≤ g u j :=
  sub_nonneg.mpr (one_le_pow₀ (le_add_of_nonneg_right hu))

theorem g_mono (u : ℚ) (hu : 0 ≤ u) {i j : ℕ} (h : i ≤ j) : g u i ≤ g u j :=
  sub_le_sub_right (pow_le_pow_right₀ (le_add_of_nonneg_right hu) h) 1

theorem g_succ (u : ℚ) (j : ℕ) : g u (j + 1) = g u j + u * (1 + g u j) := by
  unfold g; ring

theorem g_add (u : ℚ) (i j : ℕ) : g u (i + j) = g u i + g u j + g u i * g u j := by
  unfold g; ring

inductive Ex
  | lit (q : ℚ)
  | oneMinus (q : ℚ)
  | mul (a b : Ex)
  | add (a b : Ex)

namespace Ex
def exact : Ex → ℚ
  | lit q => q
  | oneMinus q => 1 - q
  | mul a b => a.exact * b.exact
  | add a b => a.exact + b.exact
def fl (rnd : ℚ → ℚ) : Ex → ℚ
  | lit q => q
  | oneMinus q => rnd (1 - q)
  | mul a b => rnd (a.fl rnd * b.fl rnd)
  | add a b => rnd (a.fl rnd + b.fl rnd)
def mag : Ex → ℚ
  | lit q => |q|
  | oneMinus q => |1 - q|
  | mul a b => a.mag * b.mag
  | add a b => a.mag + b.mag
def cnt : Ex → ℕ
  | lit _ => 0
  | oneMinus _ => 1
  | mul a b => a.cnt + b.cnt + 1
  | add a b => max a.cnt b.cnt + 1
end Ex

/-- `x` is a floating-point evaluation of the exact `q`, at most `k` roundings deep; `m` is `q` computed on absolute values -/
def Approx (u : ℚ) (rnd : ℚ → ℚ) (x : Fl rnd) (q m : ℚ) (k : ℕ) : Prop := |x.val - q| ≤ g u k * m ∧ |q| ≤ m

namespace Approx
variable {u : ℚ} {rnd : ℚ → ℚ} {x y : Fl rnd} {q r m s : ℚ} {j k : ℕ}

theorem lit (q : ℚ) : Approx u rnd ⟨q⟩ q |q| 0 := ⟨by simp [g], le_refl _⟩
theorem zero : Approx u rnd 0 0 0 0 := abs_zero (α := ℚ) ▸ lit 0
theorem one : Approx u rnd 1 1 1 0 := abs_one (α := ℚ) ▸ lit 1

theorem mag_nonneg (h : Approx u rnd x q m k) : 0 ≤ m := (abs_nonneg q).trans h.2

theorem mono (hu : 0 ≤ u) (hjk : j ≤ k) (h : Approx u rnd x q m j) : Approx u rnd x q m k :=
  ⟨h.1.trans (mul_le_mul_of_nonneg_right (g_mono u hu hjk) h.mag_nonneg), h.2⟩

/-- one more rounding: an error `e·m` on a quantity bounded by `m` becomes `(e + u(1+e))·m` -/
theorem round (hr : StdModel u rnd) {y : ℚ} (h : Approx u rnd ⟨y⟩ q m k) : Approx u rnd ⟨rnd y⟩ q m (k + 1) := by
  refine ⟨?_, h.2⟩
  have hy : |y| ≤ g u k * m + m := (by simpa using abs_add_le (y - q) q : |y| ≤ |y - q| + |q|).trans (add_le_add h.1 h.2)
  have h1 : |rnd y - q| ≤ |rnd y - y| + |y - q| := abs_sub_le _ _ _
  have h2 := (hr.2 y).trans (mul_le_mul_of_nonneg_left hy hr.1)
  rw [g_succ]
  linarith [h.1]

theorem oneSub (hr : StdModel u rnd) (a : ℚ) : Approx u rnd (1 - ⟨a⟩) (1 - a) |1 - a| 1 := round hr (lit (1 - a))

theorem mul (hr : StdModel u rnd) (hx : Approx u rnd x q m j) (hy : Approx u rnd y r s k) :
    Approx u rnd (x * y) (q * r) (m * s) (j + k + 1) := by
  have hgm := mul_nonneg (g_nonneg u hr.1 j) hx.mag_nonneg
  refine round hr ⟨?_, by rw [abs_mul]; exact mul_le_mul hx.2 hy.2 (abs_nonneg _) hx.mag_nonneg⟩
  have e : x.val * y.val - q * r = (x.val - q) * r + q * (y.val - r) + (x.val - q) * (y.val - r) := by ring
  rw [e, g_add]
  calc _ ≤ |(x.val - q) * r| + |q * (y.val - r)| + |(x.val - q) * (y.val - r)| := abs_add_three _ _ _
    _ ≤ g u j * m * s + m * (g u k * s) + g u j * m * (g u k * s) := by
      simp only [abs_mul]
      exact add_le_add (add_le_add (mul_le_mul hx.1 hy.2 (abs_nonneg _) hgm)
        (mul_le_mul hx.2 hy.1 (abs_nonneg _) hx.mag_nonneg)) (mul_le_mul hx.1 hy.1 (abs_nonneg _) hgm)
    _ = _ := by ring

theorem add (hr : StdModel u rnd) (hx : Approx u rnd x q m j) (hy : Approx u rnd y r s k) :
    Approx u rnd (x + y) (q + r) (m + s) (max j k + 1) := by
  refine round hr ⟨?_, (abs_add_le q r).trans (add_le_add hx.2 hy.2)⟩
  have e : x.val + y.val - (q + r) = (x.val - q) + (y.val - r) := by ring
  rw [e, mul_add]
  exact (abs_add_le _ _).trans
    (add_le_add (hx.mono hr.1 (le_max_left j k)).1 (hy.mono hr.1 (le_max_right j k)).1)

/-- the accumulation `s += t i` over a list, started from an `x` at least as deep as the terms -/
theorem foldl {ι : Type} (hr : StdModel u rnd) (t : ι → Fl rnd) (q m : ι → ℚ) {c : ℕ} (l : List ι)
    (ht : ∀ i ∈ l, Approx u rnd (t i) (q i) (m i) c) {x : Fl rnd} {a b : ℚ} {d : ℕ} (hcd : c ≤ d)
    (hx : Approx u rnd x a b d) :
    Approx u rnd (l.foldl (fun s i => s + t i) x) (l.foldl (fun s i => s + q i) a) (l.foldl (fun s i => s + m i) b)
      (d + l.length) := by
  induction l generalizing x a b d with
  | nil => exact hx
  | cons i l ih =>
    have h1 := hx.add hr (ht i List.mem_cons_self)
    rw [max_eq_left hcd] at h1
    have := ih (fun i hi => ht i (List.mem_cons_of_mem _ hi)) (Nat.le_succ_of_le hcd) h1
    rwa [Nat.succ_add] at this

/-- the same from zero when the terms are products and the rounding is idempotent: the first `0 + t` is then exact -/
theorem sum {ι : Type} (hr : StdModel u rnd) (hid : ∀ x, rnd (rnd x) = rnd x) (x y : ι → Fl rnd) (q m : ι → ℚ) {c : ℕ}
    (l : List ι) (ht : ∀ i ∈ l, Approx u rnd (x i * y i) (q i) (m i) (c + 1)) :
    Approx u rnd (l.foldl (fun s i => s + x i * y i) 0) (l.foldl (fun s i => s + q i) 0) (l.foldl (fun s i => s + m i) 0)
      (c + l.length) := by
  cases l with
  | nil => exact zero.mono hr.1 (Nat.zero_le _)
  | cons i l =>
    have e : (0 : Fl rnd) + x i * y i = x i * y i :=
      congrArg Fl.mk (by show rnd (0 + rnd _) = rnd _; rw [zero_add, hid])
    have := foldl hr _ q m l (fun i hi => ht i (List.mem_cons_of_mem _ hi)) (le_refl _) (ht i List.mem_cons_self)
    simp only [List.foldl_cons, e, zero_add]
    rwa [Nat.add_right_comm] at this
end Approx

/-- **forward error of any expression under the standard model** -/
theorem eval_bound (u : ℚ) (rnd : ℚ → ℚ) (h : StdModel u rnd) (e : Ex) :
    |e.fl rnd - e.exact| ≤ g u e.cnt * e.mag ∧ |e.exact| ≤ e.mag := by
  induction e with
  | lit q => exact Approx.lit (rnd := rnd) q
  | oneMinus q => exact Approx.oneSub h q
  | mul a b iha ihb => exact Approx.mul (x := ⟨_⟩) (y := ⟨_⟩) h iha ihb
  | add a b iha ihb => exact Approx.add (x := ⟨_⟩) (y := ⟨_⟩) h iha ihb

theorem rabs_eq_abs (q : ℚ) : rabs q = |q| := by
  unfold rabs
  split_ifs with h
  · exact (abs_of_neg h).symm
  · exact (abs_of_nonneg (not_lt.mp h)).symm

def inj (rnd : ℚ → ℚ) (v : List Bool → ℚ) : List Bool → Fl rnd := fun bs => ⟨v bs⟩

/-- a fraction or its complement, as selected by one bit of the corner index -/
theorem Approx.frac {u : ℚ} {rnd : ℚ → ℚ} (hr : StdModel u rnd) (a : ℚ) (b : Bool) :
    Approx u rnd (if b then ⟨a⟩ else 1 - ⟨a⟩) (if b then a else 1 - a) (if b then |a| else |1 - a|) 1 := by
  cases b
  · exact Approx.oneSub hr a
  · exact (Approx.lit a).mono hr.1 (Nat.zero_le 1)

/-- 1-D: `ra * pc[0] + a * pc[1]` -/
theorem lin1_round (u : ℚ) (rnd : ℚ → ℚ) (h : StdModel u rnd) (a : ℚ) (v : List Bool → ℚ) :
    |(lin1 (⟨a⟩ : Fl rnd) (inj rnd v)).val - nlin [a] v| ≤ g u 3 * nlinAbs [a] v := by
  have t := fun i : Bool => (Approx.frac h a i).mul h (Approx.lit (v [i]))
  rw [← branch1_eq_nlin]
  refine (((t false).add h (t true)).mono h.1 (k := 3) (by decide)).1.trans_eq ?_
  simp only [Bool.false_eq_true, if_false, if_true, nlinAbs, rabs_eq_abs]

/-- 2-D: `ra*rb*pc[0] + ra*b*pc[1] + a*rb*pc[2] + a*b*pc[3]`, left to right -/
theorem lin2_round (u : ℚ) (rnd : ℚ → ℚ) (h : StdModel u rnd) (a b : ℚ) (v : List Bool → ℚ) :
    |(lin2 (⟨a⟩ : Fl rnd) ⟨b⟩ (inj rnd v)).val - nlin [a, b] v| ≤ g u 7 * nlinAbs [a, b] v := by
  have t := fun i j : Bool => ((Approx.frac h a i).mul h (Approx.frac h b j)).mul h (Approx.lit (v [i, j]))
  have hb := (((t false false).add h (t false true)).add h (t true false)).add h (t true true)
  rw [← branch2_eq_nlin]
  refine (hb.mono h.1 (k := 7) (by decide)).1.trans_eq ?_
  simp only [Bool.false_eq_true, if_false, if_true, nlinAbs, rabs_eq_abs]
  ring

/-- 3-D: eight products of three weights and a corner value, summed left to right -/
theorem lin3_round (u : ℚ) (rnd : ℚ → ℚ) (h : StdModel u rnd) (a b c : ℚ) (v : List Bool → ℚ) :
    |(lin3 (⟨a⟩ : Fl rnd) ⟨b⟩ ⟨c⟩ (inj rnd v)).val - nlin [a, b, c] v| ≤ g u 13 * nlinAbs [a, b, c] v := by
  have t := fun i j k : Bool => (((Approx.frac h a i).mul h (Approx.frac h b j)).mul h (Approx.frac h c k)).mul h
    (Approx.lit (v [i, j, k]))
  have hb := (((((((t false false false).add h (t false false true)).add h (t false true false)).add h
    (t false true true)).add h (t true false false)).add h (t true false true)).add h (t true true false)).add h
    (t true true true)
  rw [← branch3_eq_nlin]
  refine (hb.mono h.1 (k := 13) (by decide)).1.trans_eq ?_
  simp only [Bool.false_eq_true, if_false, if_true, nlinAbs, rabs_eq_abs]
  ring

def absP (as : List ℚ) : List (ℚ × ℚ) := as.map fun a => (|1 - a|, |a|)

theorem nlinAbs_eq_nlinP (as : List ℚ) (v : List Bool → ℚ) : nlinAbs as v = nlinP (absP as) (fun bs => |v bs|) := by
  induction as generalizing v with
  | nil => simp [nlinAbs, nlinP, absP, rabs_eq_abs]
  | cons a as ih =>
    simp only [nlinAbs, absP, List.map_cons, nlinP, rabs_eq_abs]
    rw [ih, ih]
    rfl

open Ex in
/-- `f_n = Π_m (n & (1<<m) ? a_m : 1 − a_m)` -/
def exWeight : List ℚ → Nat → Ex
  | [], _ => lit 1
  | a :: as, n => mul (if n % 2 == 1 then lit a else oneMinus a) (exWeight as (n / 2))

open Ex in
/-- `rv = 0; for n < 2^N: rv += f_n * pc[n]` -/
def exGeneric (as : List ℚ) (v : List Bool → ℚ) : Ex :=
  (List.range (2 ^ as.length)).foldl (fun acc n => add acc (mul (exWeight as n) (lit (v (bitsOf as.length n))))) (lit 0)

section generic
variable {u : ℚ} {rnd : ℚ → ℚ}

theorem weight_approx (hr : StdModel u rnd) (as : List ℚ) (n : ℕ) :
    Approx u rnd (weight (as.map fun a => (⟨a⟩ : Fl rnd)) n) (weight as n) (weightP (absP as) n) (2 * as.length) := by
  induction as generalizing n with
  | nil => exact Approx.one
  | cons a as ih =>
    exact ((Approx.frac hr a _).mul hr (ih (n / 2))).mono hr.1 (by rw [List.length_cons]; omega)

theorem weightGo_approx (hr : StdModel u rnd) (as : List ℚ) (n : ℕ) {f : Fl rnd} {q m : ℚ} {k : ℕ}
    (hf : Approx u rnd f q m k) :
    Approx u rnd (weightGo (as.map fun a => (⟨a⟩ : Fl rnd)) n f) (q * weight as n) (m * weightP (absP as) n)
      (k + 2 * as.length) := by
  induction as generalizing n f q m k with
  | nil => simpa [weight, weightP, absP, weightGo] using hf
  | cons a as ih =>
    have := ih (n / 2) (hf.mul hr (Approx.frac hr a (n % 2 == 1)))
    simp only [mul_assoc] at this
    rw [List.length_cons, Nat.mul_succ, ← Nat.add_assoc, Nat.add_right_comm k]
    exact this

/-- the accumulation `rv += w n * pc[n]` over all `2^N` corners, for any floating-point weights `w` that approximate
    those of the interpolant to depth `d` -/
theorem generic_round_of (hr : StdModel u rnd) (as : List ℚ) (v : List Bool → ℚ) (w : ℕ → Fl rnd) (d : ℕ)
    (hw : ∀ n, Approx u rnd (w n) (weight as n) (weightP (absP as) n) d) :
    |((List.range (2 ^ as.length)).foldl (fun (acc : Fl rnd) n => acc + w n * inj rnd v (bitsOf as.length n)) 0).val -
      nlin as v| ≤ g u (d + 2 ^ as.length + 1) * nlinAbs as v := by
  have hb := Approx.foldl hr _ _ _ (List.range (2 ^ as.length))
    (fun n _ => (hw n).mul hr (Approx.lit (v (bitsOf as.length n)))) (le_refl _) (Approx.zero.mono hr.1 (Nat.zero_le _))
  rw [List.length_range, Nat.add_zero, Nat.add_right_comm] at hb
  rw [← generic_eq_nlin, linGeneric, nlinAbs_eq_nlinP, nlinP_eq_sum, ← foldl_range_eq_sum, absP, List.length_map]
  exact hb.1
end generic

/-- **generic branch, every N** (weights nested from the right, as `weight`): the rounded evaluation of
    `rv += f_n * pc[n]` over all `2^N` corners is within `((1+u)^(2N + 2^N + 1) − 1) · Σ_n |w_n v_n|` of the interpolant -/
theorem linGeneric_round (u : ℚ) (rnd : ℚ → ℚ) (h : StdModel u rnd) (as : List ℚ) (v : List Bool → ℚ) :
    |(linGeneric (as.map fun a => (⟨a⟩ : Fl rnd)) (inj rnd v)).val - nlin as v| ≤
      g u (2 * as.length + 2 ^ as.length + 1) * nlinAbs as v := by
  rw [linGeneric, List.length_map]
  exact generic_round_of h as v _ _ (weight_approx h as)

theorem weightGo_eq (as : List ℚ) (n : Nat) (f : ℚ) : weightGo as n f = f * weight as n := by
  induction as generalizing n f with
  | nil => simp [weightGo, weight]
  | cons a as ih => simp only [weightGo, weight]; rw [ih]; ring

/-- **generic branch exactly as coded** (`f` accumulated from the left starting at 1): same bound -/
theorem linGenericC_round (u : ℚ) (rnd : ℚ → ℚ) (h : StdModel u rnd) (as : List ℚ) (v : List Bool → ℚ) :
    |(linGenericC (as.map fun a => (⟨a⟩ : Fl rnd)) (inj rnd v)).val - nlin as v| ≤
      g u (2 * as.length + 2 ^ as.length + 1) * nlinAbs as v := by
  rw [linGenericC, List.length_map]
  refine generic_round_of h as v _ _ fun n => ?_
  have := weightGo_approx h as n (Approx.one (u := u) (rnd := rnd))
  rwa [one_mul, one_mul, Nat.zero_add] at this

/-- in exact arithmetic the two association orders agree (so `linGenericC = linGeneric = nlin`) -/
theorem linGenericC_eq (as : List ℚ) (v : List Bool → ℚ) : linGenericC as v = nlin as v := by
  rw [← generic_eq_nlin]
  unfold linGenericC linGeneric weightC
  congr 1
  funext acc n
  rw [weightGo_eq, one_mul]

/-- the judge's `γ_k = k·u / (1 − k·u)` dominates `(1+u)^k − 1` -/
theorem gamma_bound (u : ℚ) (hu : 0 ≤ u) (k : ℕ) (hk : (k : ℚ) * u < 1) : g u k ≤ (k : ℚ) * u / (1 - (k : ℚ) * u) := by
  have key : ∀ j : ℕ, (1 + u) ^ j * (1 - (j : ℚ) * u) ≤ 1 := fun j => by
    induction j with
    | zero => simp
    | succ j ih =>
      calc (1 + u) ^ (j + 1) * (1 - ((j + 1 : ℕ) : ℚ) * u)
          = (1 + u) ^ j * (1 - (j : ℚ) * u) - (1 + u) ^ j * (u * u * ((j : ℚ) + 1)) := by push_cast; ring
        _ ≤ (1 + u) ^ j * (1 - (j : ℚ) * u) := sub_le_self _ (by positivity)
        _ ≤ 1 := ih
  rw [le_div_iff₀ (sub_pos.mpr hk), g]
  linarith [key k]

/-- in particular every branch's proved bound lies below the bound the correspondence judge applies (`k = 2N + 2^N + 3`) -/
theorem judge_dominates (u : ℚ) (hu : 0 ≤ u) (j k : ℕ) (hjk : j ≤ k) (hk : (k : ℚ) * u < 1) (S : ℚ) (hS : 0 ≤ S) :
    g u j * S ≤ (k : ℚ) * u / (1 - (k : ℚ) * u) * S :=
  mul_le_mul_of_nonneg_right (le_trans (g_mono u hu hjk) (gamma_bound u hu k hk)) hS

/-- non-vacuity: round-to-nearest on a grid of spacing relative to the value satisfies the standard model; the simplest
    instance is exact arithmetic with `u = 0` … -/
example : StdModel 0 id := ⟨le_refl _, fun x => by simp⟩
/-- … and a rounding that perturbs every result by the relative amount `u` -/
example (u : ℚ) (hu : 0 ≤ u) : StdModel u (fun x => x * (1 + u)) :=
  ⟨hu, fun x => by
    have : x * (1 + u) - x = u * x := by ring
    rw [this, abs_mul, abs_of_nonneg hu]⟩

/-- "never leaves the range spanned by the surrounding lattice values by more than rounding": any evaluation within `B`
    of the interpolant lies within `B` of the hull of the corner values -/
theorem hull_round (as : List ℚ) (v : List Bool → ℚ) (lo hi r B : ℚ)
    (ha : ∀ a ∈ as, 0 ≤ a ∧ a ≤ 1) (hv : ∀ bs, lo ≤ v bs ∧ v bs ≤ hi) (hr : |r - nlin as v| ≤ B) :
    lo - B ≤ r ∧ r ≤ hi + B := by
  obtain ⟨h1, h2⟩ := nlin_hull as v lo hi ha hv
  obtain ⟨h3, h4⟩ := abs_sub_le_iff.mp hr
  exact ⟨(sub_le_sub_right h1 B).trans (sub_le_comm.mp h4), (sub_le_iff_le_add'.mp h3).trans (add_le_add_left h2 B)⟩

theorem rnd_zero (u : ℚ) (rnd : ℚ → ℚ) (h : StdModel u rnd) : rnd 0 = 0 := by
  simpa using h.2 0

/-- at a lattice point the rounded 1-D / 2-D / 3-D branch returns the stored value **exactly**, whatever the rounding does
    to inexact results (it only has to leave 1 and the stored corner value unchanged) -/
theorem lin1_lattice_round (u : ℚ) (rnd : ℚ → ℚ) (h : StdModel u rnd) (h1 : rnd 1 = 1) (v : List Bool → ℚ)
    (hv : rnd (v [false]) = v [false]) : (lin1 (⟨0⟩ : Fl rnd) (inj rnd v)).val = v [false] := by
  simp [lin1, inj, rnd_zero u rnd h, h1, hv]

theorem lin2_lattice_round (u : ℚ) (rnd : ℚ → ℚ) (h : StdModel u rnd) (h1 : rnd 1 = 1) (v : List Bool → ℚ)
    (hv : rnd (v [false, false]) = v [false, false]) :
    (lin2 (⟨0⟩ : Fl rnd) ⟨0⟩ (inj rnd v)).val = v [false, false] := by
  simp [lin2, inj, rnd_zero u rnd h, h1, hv]

theorem lin3_lattice_round (u : ℚ) (rnd : ℚ → ℚ) (h : StdModel u rnd) (h1 : rnd 1 = 1) (v : List Bool → ℚ)
    (hv : rnd (v [false, false, false]) = v [false, false, false]) :
    (lin3 (⟨0⟩ : Fl rnd) ⟨0⟩ ⟨0⟩ (inj rnd v)).val = v [false, false, false] := by
  simp [lin3, inj, rnd_zero u rnd h, h1, hv]

/-- every intermediate result of the exact evaluation is left unchanged by the rounding (e.g. small integers) -/
def Ex.AllFixed (rnd : ℚ → ℚ) : Ex → Prop
  | .lit _ => True
  | .oneMinus q => rnd (1 - q) = 1 - q
  | .mul a b => a.AllFixed rnd ∧ b.AllFixed rnd ∧ rnd (a.exact * b.exact) = a.exact * b.exact
  | .add a b => a.AllFixed rnd ∧ b.AllFixed rnd ∧ rnd (a.exact + b.exact) = a.exact + b.exact

/-- **exact stream**: when every intermediate result is representable, floating-point evaluation *is* exact evaluation
    (what the `x` streams of the C09 / C03 correspondence rely on: small-integer matrices, vectors and weights) -/
theorem fl_eq_exact_of_fixed (rnd : ℚ → ℚ) (e : Ex) (h : e.AllFixed rnd) : e.fl rnd = e.exact := by
  induction e with
  | lit q => rfl
  | oneMinus q => exact h
  | mul a b iha ihb =>
    obtain ⟨ha, hb, hab⟩ := h
    simp only [Ex.fl, Ex.exact, iha ha, ihb hb, hab]
  | add a b iha ihb =>
    obtain ⟨ha, hb, hab⟩ := h
    simp only [Ex.fl, Ex.exact, iha ha, ihb hb, hab]
end Covfie.C03
