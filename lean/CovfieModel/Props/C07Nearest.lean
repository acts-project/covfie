import CovfieModel.Props.C07NarrowBits
/-! # C07 (narrowing is round-to-nearest) — the narrowed value of a double is a nearest binary32 value among ALL
    finite floats (by magnitude), not only at the quantum it is rounded to. -/
namespace Covfie.C07
open Covfie

/-- the magnitudes of the finite binary32 values and, `e` having no upper bound, the larger `k · 2^e` as well -/
def IsF32Mag (z : ℚ) : Prop := ∃ k : Nat, ∃ e : Int, k < 2^24 ∧ -149 ≤ e ∧ z = (k : ℚ) * pow2 e

theorem nearest_multiple (q y : ℚ) (hq : 0 < q) (a : Nat) (h : |(a : ℚ) * q - y| ≤ q / 2) (j : Nat) :
    |(a : ℚ) * q - y| ≤ |(j : ℚ) * q - y| := by
  by_cases e : j = a
  · subst e; exact le_refl _
  · -- two distinct multiples are at least `q` apart, and `y` is within `q / 2` of the first
    have hd : (1 : ℚ) ≤ |(j : ℚ) - a| := by
      exact_mod_cast Int.one_le_abs (sub_ne_zero.mpr (Nat.cast_injective.ne e))
    have h2 := abs_sub_le ((j : ℚ) * q) y ((a : ℚ) * q)
    rw [abs_sub_comm y, ← sub_mul, abs_mul, abs_of_pos hq] at h2
    have := le_mul_of_one_le_left hq.le hd
    linarith

theorem nearer_below {x y c z : ℚ} (hx : |x - y| ≤ |c - y|) (hc : c ≤ y) (hz : z ≤ c) : |x - y| ≤ |z - y| := by
  rw [abs_sub_comm c, abs_of_nonneg (sub_nonneg.mpr hc)] at hx
  rw [abs_sub_comm z, abs_of_nonneg (sub_nonneg.mpr (hz.trans hc))]
  linarith

/-- **the narrowed value is a nearest binary32 value** (among *all* finite floats, by magnitude; ties are resolved to
    the even significand by `rshift_tie_even`): for a double `y = M·2^E`, subnormal (`E < −149`) or with at least 24 bits,
    `x = M'·2^E'` with `(M',E') = narrowME M E`, and every float magnitude `z`, `|x − y| ≤ |z − y|` -/
theorem narrowME_nearest (M : Nat) (E : Int) (h : E < -149 ∨ 2^23 ≤ M) (z : ℚ) (hz : IsF32Mag z) :
    |((narrowME M E).1 : ℚ) * pow2 (narrowME M E).2 - M * pow2 E| ≤ |z - M * pow2 E| := by
  have hhalf := narrowME_half_quantum M E
  obtain ⟨sh, hr, -, -, h3⟩ := narrowME_spec M E
  simp only [hr] at hhalf ⊢
  have hx := nearest_multiple _ _ (pow2_pos _) _ hhalf
  obtain ⟨k, ez, hk, hez, rfl⟩ := hz
  by_cases hcase : E + sh ≤ ez
  · -- `z` is a multiple of the quantum
    obtain ⟨n, rfl⟩ : ∃ n : Nat, ez = E + sh + n := ⟨(ez - (E + sh)).toNat, by omega⟩
    have := hx (k * 2^n)
    rwa [Nat.cast_mul, Nat.cast_pow, Nat.cast_ofNat, mul_assoc, ← pow2_split] at this
  · -- `z` lies below the binade of the result, whose lower end `2^23·q ≤ y` is itself a multiple of the quantum
    have hy : (2:ℚ)^23 * pow2 (E + sh) ≤ M * pow2 E := by
      rw [pow2_split, ← mul_assoc, ← pow_add]
      exact mul_le_mul_of_nonneg_right (by exact_mod_cast (h3 h).resolve_left (by omega)) (pow2_pos E).le
    have hzq : (k : ℚ) * pow2 ez ≤ (2:ℚ)^23 * pow2 (E + sh) :=
      calc (k : ℚ) * pow2 ez ≤ 2^24 * pow2 ez := mul_le_mul_of_nonneg_right (by exact_mod_cast hk.le) (pow2_pos ez).le
        _ = 2^23 * pow2 (ez + (1 : Nat)) := by rw [pow2_split]; ring
        _ ≤ 2^23 * pow2 (E + sh) := mul_le_mul_of_nonneg_left (pow2_mono _ _ (by omega)) (by positivity)
    have := hx (2^23)
    exact nearer_below this hy hzq

/-- `narrowME_nearest` for a normal double `y = (2^52 + m)·2^(e−1075)` -/
theorem narrow_nearest_normal (m e : Nat) (hm : m < 2^52) (he0 : 0 < e) (he : e < 2047) (z : ℚ) (hz : IsF32Mag z) :
    let r := narrowME (2^52 + m) ((e : Int) - 1075)
    |((r.1 : ℚ) * pow2 r.2) - ((2^52 + m : Nat) : ℚ) * pow2 ((e : Int) - 1075)| ≤
      |z - ((2^52 + m : Nat) : ℚ) * pow2 ((e : Int) - 1075)| :=
  narrowME_nearest _ _ (Or.inr (by omega)) z hz

/-- **end to end**: for a normal double whose rounded value fits the float range, the bit pattern produced by the
    narrowing conversion decodes to `±x` where `x` is a nearest float magnitude to `|y|` among all finite floats -/
theorem narrowBits_nearest (s e m : Nat) (hs : s < 2) (hm : m < 2^52) (he0 : 0 < e) (he : e < 2047)
    (hno : ((narrowME (2^52 + m) ((e : Int) - 1075)).2 + 149).toNat * 2^23 + (narrowME (2^52 + m) ((e : Int) - 1075)).1 < 0x7f800000) :
    ∃ x : ℚ, decodeF32 (narrowBits (s * 2^63 + e * 2^52 + m)) = .fin (if s = 1 then -x else x) ∧
      ∀ z, IsF32Mag z → |x - ((2^52 + m : Nat) : ℚ) * pow2 ((e : Int) - 1075)| ≤ |z - ((2^52 + m : Nat) : ℚ) * pow2 ((e : Int) - 1075)| :=
  ⟨_, narrow_decode_normal s e m hs hm he0 he hno, fun z hz => narrow_nearest_normal m e hm he0 he z hz⟩
end Covfie.C07
