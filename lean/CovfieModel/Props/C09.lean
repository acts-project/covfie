import CovfieModel.Model.Algebra
import CovfieModel.Model.Stack
import Mathlib.Data.List.OfFn
import Mathlib.Tactic.Ring
import Mathlib.Algebra.BigOperators.Fin
import Mathlib.Algebra.BigOperators.Ring.Finset
/-! # C09 — The affine layer maps x to Ax+t and affine transforms compose as functions (any N, any commutative ring) -/
namespace Covfie.C09
variable {α : Type} [CommRing α]

theorem sumFin_eq (n : Nat) (f : Fin n → α) : sumFin n f = ∑ k, f k := by
  rw [← List.sum_ofFn, List.ofFn_eq_map, List.sum_eq_foldl]
  exact (List.foldl_map ..).symm

/-- homogeneous coordinate vector `(v, 1)` -/
def hom {α : Type} [OfNat α 1] {N : Nat} (v : Fin N → α) : Fin (N+1) → α :=
  fun k => if h : k.val < N then v ⟨k.val, h⟩ else 1

theorem hom_castSucc {N : Nat} (v : Fin N → α) (k : Fin N) : hom v (Fin.castSucc k) = v k := dif_pos k.isLt
theorem hom_last {N : Nat} (v : Fin N → α) : hom v (Fin.last N) = 1 := dif_neg (lt_irrefl N)

theorem affApply_eq {N : Nat} (A : Fin N → Fin (N+1) → α) (v : Fin N → α) (i : Fin N) :
    affApply A v i = ∑ k, A i k * hom v k := sumFin_eq _ _

/-- applying the N×(N+1) matrix (A | t) to x gives A·x + t -/
theorem affApply_spec {N : Nat} (A : Fin N → Fin (N+1) → α) (v : Fin N → α) (i : Fin N) :
    affApply A v i = (∑ k : Fin N, A i (Fin.castSucc k) * v k) + A i (Fin.last N) := by
  rw [affApply_eq, Fin.sum_univ_castSucc, hom_last, mul_one]
  simp only [hom_castSucc]

theorem affMul_eq {N : Nat} (P Q : Fin N → Fin (N+1) → α) (i : Fin N) (j : Fin (N+1)) :
    affMul P Q i j = ∑ k, P i k * embed Q k j := by
  rw [affMul, matMul, sumFin_eq]
  simp only [embed, Fin.val_castSucc, i.isLt, dite_true, Fin.eta]

theorem embed_hom {N : Nat} (Q : Fin N → Fin (N+1) → α) (v : Fin N → α) (k : Fin (N+1)) :
    ∑ j, embed Q k j * hom v j = hom (affApply Q v) k := by
  unfold embed
  by_cases h : k.val < N
  · simp only [h, dite_true, hom, affApply_eq]
  · -- row `N` of `embed Q` is `(0, …, 0, 1)`: the sum is the last entry of `hom v`, which is 1
    simp only [h, dite_false, hom, ite_mul, one_mul, zero_mul, Fin.sum_univ_castSucc, Fin.val_castSucc, Fin.val_last, if_true,
      Nat.ne_of_lt (Fin.isLt _), if_false, Finset.sum_const_zero, zero_add, lt_irrefl]

/-- the product of two affine transforms applied to a vector = apply the right factor, then the left -/
theorem affMul_apply {N : Nat} (P Q : Fin N → Fin (N+1) → α) (v : Fin N → α) (i : Fin N) :
    affApply (affMul P Q) v i = affApply P (affApply Q v) i := by
  simp only [affApply_eq, affMul_eq, Finset.sum_mul, mul_assoc]
  rw [Finset.sum_comm]
  simp only [← Finset.mul_sum, embed_hom]

theorem affMul_apply3 {N : Nat} (P Q R : Fin N → Fin (N+1) → α) (v : Fin N → α) :
    affApply (affMul (affMul P Q) R) v = affApply P (affApply Q (affApply R v)) := by
  funext i; rw [affMul_apply, affMul_apply]

/-- an affine matrix whose linear part is diagonal: `d` on the diagonal, `t` in the last column -/
theorem affApply_diag {N : Nat} {A : Fin N → Fin (N+1) → α} (d t v : Fin N → α) (i : Fin N)
    (hA : ∀ k : Fin N, A i (Fin.castSucc k) = if i.val = k.val then d i else 0) (ht : A i (Fin.last N) = t i) :
    affApply A v i = d i * v i + t i := by
  rw [affApply_spec, ht]
  simp only [hA, Fin.val_inj, ite_mul, zero_mul, Finset.sum_ite_eq, Finset.mem_univ, if_true]

theorem identity_apply {N : Nat} (v : Fin N → α) (i : Fin N) : affApply (affId N) v i = v i := by
  rw [affApply_diag 1 0 v i (fun _ => rfl) (if_neg i.isLt.ne), Pi.one_apply, one_mul, Pi.zero_apply, add_zero]
theorem translation_apply {N : Nat} (t v : Fin N → α) (i : Fin N) : affApply (affTranslation t) v i = v i + t i := by
  rw [affApply_diag 1 t v i (fun k => if_neg k.isLt.ne) (if_pos rfl), Pi.one_apply, one_mul]
theorem scaling_apply {N : Nat} (s v : Fin N → α) (i : Fin N) : affApply (affScaling s) v i = s i * v i := by
  rw [affApply_diag s 0 v i (fun k => ite_congr rfl (fun _ => rfl) fun h => if_neg h)
    ((if_neg i.isLt.ne).trans (if_neg i.isLt.ne)), Pi.zero_apply, add_zero]


theorem affApply_inj {N : Nat} (A B : Fin N → Fin (N+1) → α) (h : ∀ v, affApply A v = affApply B v) : A = B := by
  funext i j
  have hl : A i (Fin.last N) = B i (Fin.last N) := by
    simpa only [affApply_spec, mul_zero, Finset.sum_const_zero, zero_add] using congrFun (h fun _ => 0) i
  refine Fin.lastCases hl (fun k => ?_) j
  simpa only [affApply_spec, hl, mul_ite, mul_one, mul_zero, Finset.sum_ite_eq, Finset.mem_univ, if_true, add_left_inj]
    using congrFun (h fun m => if k = m then 1 else 0) i

/-- composition of affine transforms is associative, so products of any length act as the composed function whatever
    the association order -/
theorem affMul_assoc {N : Nat} (P Q R : Fin N → Fin (N+1) → α) : affMul (affMul P Q) R = affMul P (affMul Q R) := by
  apply affApply_inj
  intro v
  funext i
  have e : affApply (affMul Q R) v = affApply Q (affApply R v) := funext (affMul_apply Q R v)
  rw [affMul_apply, affMul_apply, affMul_apply, e]

/-- a product of four transforms (the longest chain the correspondence exercises) acts as the four factors applied in turn -/
theorem affMul_apply4 {N : Nat} (P Q R S : Fin N → Fin (N+1) → α) (v : Fin N → α) :
    affApply (affMul (affMul (affMul P Q) R) S) v = affApply P (affApply Q (affApply R (affApply S v))) := by
  funext i; rw [affMul_apply, affMul_apply, affMul_apply]

/-- the row-wise evaluation used by the stack model's affine layer (`affineL`) is the model's `affApply` -/
theorem affineRow_eq_affApply {N : Nat} (A : Fin N → Fin (N+1) → ℚ) (v : Fin N → ℚ) (i : Fin N) :
    affineRow (List.ofFn (A i)) (List.ofFn v) = affApply A v i := by
  have hx : List.ofFn v ++ [1] = List.ofFn (fun k : Fin (N+1) => if h : k.val < N then v ⟨k.val, h⟩ else (1:ℚ)) := by
    rw [List.ofFn_succ' (n := N)]
    simp [List.concat_eq_append]
  unfold affineRow affApply sumFin
  rw [hx, List.ofFn_eq_map, List.ofFn_eq_map, List.zipWith_map, List.zipWith_self, List.foldl_map]

/-- the affine layer queries what lies beneath at `A·x + t` -/
theorem affine_layer {N : Nat} (A : Fin N → Fin (N+1) → ℚ) (x : Fin N → ℚ) (bk : Backend) :
    affineL (List.ofFn fun i => List.ofFn (A i)) bk ((List.ofFn x).map Num.fin) =
      bk (List.ofFn fun i => Num.fin (affApply A x i)) := by
  have hm : mapO finOf ((List.ofFn x).map Num.fin) = some (List.ofFn x) := by
    induction (List.ofFn x) with
    | nil => rfl
    | cons a as ih => simp [mapO, finOf, ih]
  unfold affineL
  rw [hm]
  simp only [List.map_ofFn]
  congr 1
  apply List.ofFn_inj.mpr
  funext i
  simp only [Function.comp]
  rw [affineRow_eq_affApply]
end Covfie.C09
