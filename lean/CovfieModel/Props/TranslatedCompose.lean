import CovfieModel.Props.TranslatedAlg
/-! # `affine::operator*(affine)` as translated from the source text is the model's `affMul` -/
namespace Covfie.RImp
open Covfie.Imp (iterN)

variable {α : Type} [Add α] [Mul α] [Sub α] [OfNat α 0] [OfNat α 1]

abbrev Arrs (α : Type) := List (List Nat → α)

/-! The loops `for (j < n + 1) b` and `for (i < n) for (j < n + 1) b` (`i` in variable 7, `j` in 8, `n` in 6); `b` acts on
the part `s` of the arrays `e s` as `g`. -/
def dimE : Covfie.Imp.Expr := .bin .add .S (.var 6) (.lit 1)
def cmpRow (b : Stmt) : Stmt := forLt 8 dimE b
def cmpNest (b : Stmt) : Stmt := forLt 7 (.var 6) (.seq (.iassign 8 (.lit 0)) (cmpRow b))

theorem cmpRow_exec {β : Type} (b : Stmt) (g : Nat → β → β) (e : β → Arrs α) (F n x0 x1 x2 x3 x4 x5 i : Nat) (rs : List α)
    (hn : n + 1 < 2^64) (hF : n + 1 < F)
    (hb : ∀ j s, j < n + 1 → exec F b ⟨[x0, x1, x2, x3, x4, x5, n, i, j], rs, e s⟩ = some ⟨[x0, x1, x2, x3, x4, x5, n, i, j], rs, e (g j s)⟩)
    (s : β) :
    exec F (cmpRow b) ⟨[x0, x1, x2, x3, x4, x5, n, i, 0], rs, e s⟩
      = some ⟨[x0, x1, x2, x3, x4, x5, n, i, n + 1], rs, e ((List.range (n + 1)).foldl (fun s j => g j s) s)⟩ := by
  obtain ⟨_, h⟩ := exec_for_zero F 8 (n + 1) dimE b (e := fun j s (_ : Unit) => ⟨[x0, x1, x2, x3, x4, x5, n, i, j], rs, e s⟩) (step := g)
    hn (fun _ _ _ => Nat.mod_eq_of_lt hn) (fun j s _ hj => ⟨(), hb j s hj⟩) hF s ()
  exact h

theorem cmpNest_exec {β : Type} (b : Stmt) (g : Nat → Nat → β → β) (e : β → Arrs α) (F n x0 x1 x2 x3 x4 x5 : Nat) (rs : List α)
    (hn : n + 1 < 2^64) (hF : n + 1 < F)
    (hb : ∀ i j s, j < n + 1 → exec F b ⟨[x0, x1, x2, x3, x4, x5, n, i, j], rs, e s⟩ = some ⟨[x0, x1, x2, x3, x4, x5, n, i, j], rs, e (g i j s)⟩)
    (j0 : Nat) (s : β) :
    ∃ j', exec F (cmpNest b) ⟨[x0, x1, x2, x3, x4, x5, n, 0, j0], rs, e s⟩
      = some ⟨[x0, x1, x2, x3, x4, x5, n, n, j'], rs, e ((List.range n).foldl (fun s i => (List.range (n + 1)).foldl (fun s j => g i j s) s) s)⟩ :=
  exec_for_zero F 7 n (.var 6) _ (e := fun i s j => ⟨[x0, x1, x2, x3, x4, x5, n, i, j], rs, e s⟩)
    (step := fun i s => (List.range (n + 1)).foldl (fun s j => g i j s) s) (by omega) (fun _ _ _ => rfl)
    (fun i s j _ => ⟨n + 1, by simp -implicitDefEqProofs only [imp_exec]; exact cmpRow_exec b (g i) e F n x0 x1 x2 x3 x4 x5 i rs hn hF (hb i) s⟩)
    (by omega) s j0

/-! `affine::operator*(affine)`: integers 0–5 those of the inlined `Ref.matmul`, 6 `n`, 7 `i`, 8 `j`; arrays `[m1, m2, r, THIS, m, o]`. -/

/-- `m1(i,j) = this(i,j); m2(i,j) = m(i,j)` -/
def cmpJ1 : Stmt :=
  .seq (.rset 0 [(.var 7), (.var 8)] (.get 3 [(.var 7), (.var 8)])) (.rset 1 [(.var 7), (.var 8)] (.get 4 [(.var 7), (.var 8)]))
/-- the last row of both factors becomes `(0, …, 0, 1)` -/
def cmpJ2 : Stmt :=
  .ite (.bin .eq .S (.var 8) (.var 6))
    (.seq (.rset 0 [(.var 6), (.var 8)] .one) (.rset 1 [(.var 6), (.var 8)] .one))
    (.seq (.rset 0 [(.var 6), (.var 8)] .zero) (.rset 1 [(.var 6), (.var 8)] .zero))
/-- `o(i,j) = r(i,j)` -/
def cmpJ3 : Stmt := .rset 5 [(.var 7), (.var 8)] (.get 2 [(.var 7), (.var 8)])

theorem cmp_shape : Ref.affine_compose = .seq (.iassign 7 (.lit 0)) (.seq (cmpNest cmpJ1)
    (.seq (.iassign 8 (.lit 0)) (.seq (cmpRow cmpJ2)
      (.seq (.iassign 0 dimE) (.seq (.iassign 1 dimE) (.seq (.iassign 2 dimE)
        (.seq Ref.matmul (.seq (.iassign 7 (.lit 0)) (cmpNest cmpJ3))))))))) := rfl

def lastRow (n : Nat) (j : Nat) : α := if j = n then 1 else 0

/-- the homogeneous embedding the code builds: rows below `n` from the matrix, row `n` = `(0, …, 0, 1)` -/
def embN (n : Nat) (A : List Nat → α) : List Nat → α :=
  fun ix => if ix.getD 0 0 < n then A ix else lastRow n (ix.getD 1 0)

theorem embN_fill (n : Nat) (A m : List Nat → α) (i k : Nat) (hi : i < n + 1) (hk : k < n + 1) :
    fill (fun j => [n, j]) (lastRow n) (n + 1) (fill2 (fun i j => A [i, j]) n (n + 1) m) [i, k] = embN n A [i, k] := by
  by_cases h : i = n
  · subst h
    rw [fill_hit (fun j => [i, j]) _ _ _ k hk]
    simp [embN]
  · rw [fill_miss _ _ _ _ _ (by intro c _ e; simp at e; omega), fill2_at]
    simp [embN, show i < n by omega, hk]

theorem dotN_congr (A1 A2 B1 B2 : List Nat → α) (i j m : Nat) (t : α)
    (hA : ∀ k, k < m → A1 [i, k] = A2 [i, k]) (hB : ∀ k, k < m → B1 [k, j] = B2 [k, j]) :
    dotN A1 B1 i j m t = dotN A2 B2 i j m t :=
  foldl_congr _ _ _ _ (fun a k hk => by rw [hA k (List.mem_range.mp hk), hB k (List.mem_range.mp hk)])

/-- `affine::operator*(affine)` as written: entry (i, j) of the result is the (i, j) entry of the product of the two
homogeneous embeddings, accumulated from 0 in the order k = 0 … N. -/
theorem affine_compose_translated (F n : Nat) (A B m1 m2 r o : List Nat → α) (hn : n + 1 < 2^64) (hF : n + 1 < F)
    (x0 x1 x2 x3 x4 x5 i0 j0 : Nat) (t0 : α) :
    ∃ env' : Env α, exec F Ref.affine_compose ⟨[x0, x1, x2, x3, x4, x5, n, i0, j0], [t0], [m1, m2, r, A, B, o]⟩ = some env'
      ∧ ∀ i j, i < n → j < n + 1 → (env'.arr.getD 5 (fun _ => 0)) [i, j] = dotN (embN n A) (embN n B) i j (n + 1) 0 := by
  -- in turn: the rows of both factors copied, their last rows set, the product, its first `n` rows copied out
  obtain ⟨j1, h1⟩ := cmpNest_exec cmpJ1 (fun i j p => (upd p.1 [i, j] (A [i, j]), upd p.2 [i, j] (B [i, j])))
    (fun p => [p.1, p.2, r, A, B, o]) F n x0 x1 x2 x3 x4 x5 [t0] hn hF (fun _ _ _ _ => by simp -implicitDefEqProofs only [imp_exec, cmpJ1]) j0 (m1, m2)
  rw [fill2_pair] at h1
  have h2 := cmpRow_exec cmpJ2 (fun j p => (upd p.1 [n, j] (lastRow n j), upd p.2 [n, j] (lastRow n j)))
    (fun p => [p.1, p.2, r, A, B, o]) F n x0 x1 x2 x3 x4 x5 n [t0] hn hF
    (fun j p _ => by by_cases h : j = n <;> simp -implicitDefEqProofs only [imp_exec, cmpJ2, lastRow, h])
    (fill2 (fun i j => A [i, j]) n (n + 1) m1, fill2 (fun i j => B [i, j]) n (n + 1) m2)
  rw [fill_pair] at h2
  have hM1 := embN_fill n A m1
  have hM2 := embN_fill n B m2
  generalize fill _ _ _ (fill2 _ _ _ m1) = M1 at h2 hM1
  generalize fill _ _ _ (fill2 _ _ _ m2) = M2 at h2 hM2
  obtain ⟨j4, k4, t4, h4⟩ := matmul_exec [n, n, n + 1] [] [A, B, o] F (n + 1) (n + 1) (n + 1) M1 M2 r hn hn hn ⟨hF, hF, hF⟩ x3 x4 x5 t0
  have hR := fill2_at (fun i j => dotN M1 M2 i j (n + 1) 0) (n + 1) (n + 1) r
  generalize fill2 _ _ _ r = R at h4 hR
  obtain ⟨j5, h5⟩ := cmpNest_exec cmpJ3 (fun i j o => upd o [i, j] (R [i, j])) (fun o => [M1, M2, R, A, B, o])
    F n (n + 1) (n + 1) (n + 1) (n + 1) j4 k4 [t4] hn hF (fun _ _ _ _ => rfl) (n + 1) o
  refine ⟨_, by
    rw [cmp_shape]
    simp -implicitDefEqProofs only [imp_exec]
    rw [h1]
    simp -implicitDefEqProofs only [imp_exec]
    rw [h2]
    simp -implicitDefEqProofs only [imp_exec, dimE, Nat.mod_eq_of_lt hn]
    rw [h4]
    simp -implicitDefEqProofs only [imp_exec]
    exact h5,
    fun i j hi hj => ?_⟩
  show fill2 (fun i j => R [i, j]) n (n + 1) o [i, j] = _
  rw [fill2_at, if_pos ⟨hi, hj⟩, hR, if_pos ⟨by omega, hj⟩]
  exact dotN_congr _ _ _ _ _ _ _ _ (fun k hk => hM1 i k (by omega) hk) (fun k hk => hM2 k j hk hj)

theorem dotN_embN_eq_affMul {N : Nat} (P Q : Fin N → Fin (N+1) → α) (i : Fin N) (j : Fin (N+1)) :
    dotN (embN N (ofMat P)) (embN N (ofMat Q)) i.val j.val (N + 1) 0 = affMul P Q i j :=
  dotN_eq_sumFin _ _ _ _ _ _ (fun k hk => by
    have hi := i.isLt
    have hj := j.isLt
    by_cases hkn : k < N
    · simp [embN, embed, ofMat, hi, hj, hk, hkn]
    · have : k = N := by omega
      subst this
      simp [embN, embed, ofMat, hi, lastRow])

/-- Entry (i, j) of what `affine::operator*(affine)` as written computes is the model's `affMul` — whose action on a vector is
"apply the right factor, then the left" (`Covfie.C09.affMul_apply`). -/
theorem affine_compose_translated_model {N : Nat} (P Q : Fin N → Fin (N+1) → α) (m1 m2 r o : List Nat → α)
    (F : Nat) (hN : N + 1 < 2^64) (hF : N + 1 < F) (x0 x1 x2 x3 x4 x5 i0 j0 : Nat) (t0 : α) :
    ∃ env' : Env α, exec F Ref.affine_compose ⟨[x0, x1, x2, x3, x4, x5, N, i0, j0], [t0], [m1, m2, r, ofMat P, ofMat Q, o]⟩ = some env'
      ∧ ∀ (i : Fin N) (j : Fin (N+1)), (env'.arr.getD 5 (fun _ => 0)) [i.val, j.val] = affMul P Q i j := by
  obtain ⟨env', h1, h2⟩ := affine_compose_translated F N (ofMat P) (ofMat Q) m1 m2 r o hN hF x0 x1 x2 x3 x4 x5 i0 j0 t0
  exact ⟨env', h1, fun i j => by rw [h2 i.val j.val i.isLt j.isLt, dotN_embN_eq_affMul]⟩

/-! Another reading of the two-dimensional loops, which the theorems above do not go through: iterated steps (`iterN`) that
carry their counters. -/

/-- `for j < m: A[i, j] := val i j`, then `++i` -/
def tab2Step (val : Nat → Nat → α) (m : Nat) (s : (List Nat → α) × Nat) : (List Nat → α) × Nat :=
  ((iterN (tabStep (fun c => [s.2, c]) (val s.2)) m (s.1, 0)).1, s.2 + 1)

theorem tab2_c (val : Nat → Nat → α) (m : Nat) : ∀ n s, (iterN (tab2Step val m) n s).2 = s.2 + n :=
  Imp.iterN_count Prod.snd _ (fun _ => rfl)

def rowG (G : Nat → Nat → Arrs α → Arrs α) (i : Nat) (s : Arrs α × Nat) : Arrs α × Nat := (G i s.2 s.1, s.2 + 1)

theorem rowG_c (G : Nat → Nat → Arrs α → Arrs α) (i : Nat) : ∀ n s, (iterN (rowG G i) n s).2 = s.2 + n :=
  Imp.iterN_count Prod.snd _ (fun _ => rfl)

end Covfie.RImp
