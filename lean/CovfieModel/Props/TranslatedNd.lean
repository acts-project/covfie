import CovfieModel.Model.NdScript
import CovfieModel.Props.C19
/-! # `utility/nd_map.hpp` as written determines the model's `ndMap` (C19)

`harness/cxx2tmpl.py` (`translate_ndmap`) recognises `tail`, `cat` and the three `if constexpr` branches of `nd_map`; `Holds` reads
each as an equation about the meanings of `tail`, `cat` and of the sequence of tuples the callback is called with. Any meanings
satisfying them give the model's visit sequence (`visits_eq`), hence the property (`as_written`); the model satisfies them
(`model_satisfies`). Trusted: that a call of `nd_map` with a recording callback computes by these equations (the lambda
`[f, i](tail_t r) { f(cat({i}, r)); }` prepends `i`; the loops run `i` from 0 below `s.at(0)` without wrap-around, i.e. the
extent fits the index type). -/
namespace Covfie.Nd
open Covfie

theorem ndMap_singleton (s : Nat) : ndMap [s] = (List.range s).map (fun i => [i]) := by
  simp [ndMap, List.map_eq_flatMap]

theorem visits_eq (F : Funs) (h : ∀ e ∈ Ref.nd_map, Holds F e) : ∀ sz : List Nat, F.visits sz = ndMap sz := by
  have ht := h .tail (by decide); have hc := h .cat (by decide)
  have h0 := h .nd0 (by decide); have h1 := h .nd1 (by decide); have hN := h .ndN (by decide)
  simp only [Holds] at ht hc h0 h1 hN
  intro sz
  induction sz with
  | nil => exact h0
  | cons s ss ih =>
    cases ss with
    | nil => rw [h1, ndMap_singleton]
    | cons s' ss =>
      rw [hN, ht, ih]
      simp only [hc, ndMap, List.singleton_append]

/-- C19 for `nd_map` as written: whatever meanings satisfy the recognised declarations and branches, the callback is called with
exactly the tuples of the box, each once, `∏ extents` times in all. -/
theorem as_written (F : Funs) (h : ∀ e ∈ Ref.nd_map, Holds F e) (sz : List Nat) :
    (∀ t, t ∈ F.visits sz ↔ InBox sz t) ∧ (F.visits sz).Nodup ∧ (F.visits sz).length = prodL sz := by
  rw [visits_eq F h sz]
  exact ⟨Covfie.C19.visits_exactly_box sz, Covfie.C19.visits_once sz, Covfie.C19.visit_count sz⟩

/-- not vacuous: the model's functions satisfy every equation -/
theorem model_satisfies : ∀ e ∈ Ref.nd_map, Holds ⟨List.tail, (· ++ ·), ndMap⟩ e := by
  intro e _
  cases e with
  | tailImpl | catImpl | ndMap => trivial
  | tail => intro x xs; rfl
  | cat => intro a b; rfl
  | nd0 => rfl
  | nd1 => exact ndMap_singleton
  | ndN => intro s s' ss; rfl

end Covfie.Nd
