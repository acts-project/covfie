import CovfieModel.Model.BinScript
namespace Covfie.IO

/-- `write_io_header` / `write_io_footer` as written produce the model's header / footer bytes -/
theorem write_io_header_translated (t : Nat) : runW BRef.write_io_header t = hdr t := by
  simp [runW, BRef.write_io_header, hdr, Wd32.val]
theorem write_io_footer_translated (t : Nat) : runW BRef.write_io_footer t = ftr t := by
  simp [runW, BRef.write_io_footer, ftr, Wd32.val]

/-- the shape both readers have: two words are read, then the first is compared with a magic number and the second with the tag
(the model compares the first before it reads the second, so *which* exception is thrown on a bad, short header can differ —
the properties only ask for an exception) -/
theorem runR_two (w : Wd32) (t : Nat) (e₁ e₂ : IOErr) (bs : List Byte) :
    runR [.read 1, .read 2, .check 1 w, .check 2 .tag, .ret] t [] bs
      = toOpt ((bindP (expect 4 (w.val t) e₁) fun _ => expect 4 t e₂) bs) := by
  simp only [runR, bindP, expect, List.nil_append, List.getD_cons_zero, List.cons_append, List.getD_cons_succ]
  generalize Wd32.val t w = m
  simp only [Wd32.val]
  cases h1 : rd 4 bs with
  | error e => simp [toOpt]
  | ok r1 =>
    obtain ⟨v1, b1⟩ := r1
    cases h2 : rd 4 b1 with
    | error e => by_cases hv : v1 = m <;> simp [toOpt, hv, pureP, failP, h2]
    | ok r2 =>
      obtain ⟨v2, b2⟩ := r2
      by_cases hv : v1 = m <;> by_cases hw : v2 = t <;> simp [toOpt, hv, hw, pureP, failP, h2]

/-- `read_io_header` as written accepts exactly what the model's `pHdr` accepts, and leaves the same rest of the stream -/
theorem read_io_header_translated (t : Nat) (bs : List Byte) : runR BRef.read_io_header t [] bs = toOpt (pHdr t bs) :=
  runR_two .magicH t _ _ bs

theorem read_io_footer_translated (t : Nat) (bs : List Byte) : runR BRef.read_io_footer t [] bs = toOpt (pFtr t bs) :=
  runR_two .magicF (t + FOOT) _ _ bs

end Covfie.IO
