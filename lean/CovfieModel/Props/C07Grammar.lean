import CovfieModel.Lemmas.IO
/-! # C07 (grammar part) — the byte stream of a dump always follows the nested header / payload / footer grammar
    `stack ::= H(tag) payload stack? F(tag)`, `H(t) = C04F1EAB t`, `F(t) = C04F1E70 (t + 20000000)`;
    the sequence of tags is determined by the stack type alone (footprint-free layers contribute nothing),
    and the length of every payload is determined by the type (and, for the array, by the width and count words). -/
namespace Covfie.C07
open Covfie.IO

/-- `Gram tags bs`: `bs` is a bracket nest whose tags, outermost first, are `tags`, each bracket being
    header · payload · (inner nest) · footer -/
inductive Gram : List Nat → List Byte → Prop
  | leaf (t : Nat) (payload : List Byte) : Gram [t] (hdr t ++ payload ++ ftr t)
  | node (t : Nat) (ts : List Nat) (payload inner : List Byte) :
      Gram ts inner → Gram (t :: ts) (hdr t ++ (payload ++ inner) ++ ftr t)

/-- the tags a stack type writes, outermost first -/
def tags : Ty → List Nat
  | .array _ => [T_ARRAY]
  | .constant _ _ => [T_CONST]
  | .identity => [T_IDENT]
  | .sized t _ b => t :: tags b
  | .clamp _ _ b => T_CLAMP :: tags b
  | .backup _ _ _ _ b => T_BACKUP :: tags b
  | .affine _ _ b => T_AFFINE :: tags b
  | .thin b => tags b

theorem tags_ne_nil (ty : Ty) : tags ty ≠ [] := by
  induction ty with
  | thin b ih => exact ih
  | _ => exact List.cons_ne_nil _ _

theorem dumpB_grammar : ∀ ty d, WF ty d → Gram (tags ty) (dumpB ty d) :=
  WF.ind
    (array := fun _ _ _ _ _ => .leaf _ _)
    (constant := fun _ _ _ _ => .leaf _ _)
    (identity := .leaf _ _)
    (sized := fun _ _ _ _ _ _ ih => .node _ _ _ _ ih)
    (clamp := fun _ _ _ _ _ _ _ ih => .node _ _ _ _ ih)
    (backup := fun _ _ _ _ _ _ _ _ _ _ ih => .node _ _ _ _ ih)
    (affine := fun _ _ _ _ _ _ ih => .node _ _ _ _ ih)
    (thin := fun _ _ _ ih => ih)

/-- **the whole file** is the global bracket around the stack's nest -/
theorem dump_grammar (ty : Ty) (d : Dat) (h : WF ty d) : Gram (T_FIELD :: tags ty) (dump ty d) := by
  have := Gram.node T_FIELD (tags ty) [] (dumpB ty d) (dumpB_grammar ty d h)
  simpa only [dump, wrapD, List.nil_append] using this

/-- a bracket nest starts with the header magic and its first tag, and ends with the footer of that tag -/
theorem Gram_head (ts : List Nat) (bs : List Byte) (g : Gram ts bs) :
    ∃ t rest mid, ts = t :: rest ∧ bs = hdr t ++ mid ++ ftr t := by
  cases g with
  | leaf t p => exact ⟨t, [], p, rfl, rfl⟩
  | node t ts p i _ => exact ⟨t, ts, p ++ i, rfl, rfl⟩

/-- interpolators and the other footprint-free layers do not change the tag sequence -/
theorem tags_thin (b : Ty) : tags (.thin b) = tags b := rfl

/-- total length of a dump in closed form: 16 bytes of bracket per tag plus the payloads -/
def payloadLen : Ty → Dat → Nat
  | .array _, .array wd _ cells => 4 + 8 + wd * cells.length
  | .constant sz _, .constant v => sz * v.length
  | .identity, .identity => 0
  | .sized _ _ b, .sized cfg d => 8 * cfg.length + payloadLen b d
  | .clamp sz _ b, .clamp lo hi d => sz * lo.length + sz * hi.length + payloadLen b d
  | .backup sz _ osz _ b, .backup lo hi df d => sz * lo.length + sz * hi.length + osz * df.length + payloadLen b d
  | .affine sz _ b, .affine m d => sz * m.length + payloadLen b d
  | .thin b, .thin d => payloadLen b d
  | _, _ => 0

/-- a bracket around a layer's own words `W` and the nest `X` below it adds 16 bytes, one tag and the words -/
theorem wrapD_layer_length {t n p w : Nat} {W X : List Byte} (hW : W.length = w) (hX : X.length = 16 * n + p) :
    (wrapD t (W ++ X)).length = 16 * (n + 1) + (w + p) := by
  rw [wrapD_length, List.length_append, hW, hX]; omega

theorem dumpB_length : ∀ ty d, WF ty d → (dumpB ty d).length = 16 * (tags ty).length + payloadLen ty d :=
  WF.ind
    (array := fun _ _ _ _ _ => by
      simp only [dumpB, wrapD_length, List.length_append, le_length, words_length, tags, payloadLen, List.length_cons,
        List.length_nil])
    (constant := fun _ _ _ _ => by
      simp only [dumpB, wrapD_length, words_length, tags, payloadLen, List.length_cons, List.length_nil])
    (identity := rfl)
    (sized := fun _ _ _ _ _ _ ih => wrapD_layer_length (words_length 8 _) ih)
    (clamp := fun _ _ _ _ _ _ _ ih => wrapD_layer_length (by rw [List.length_append, words_length, words_length]) ih)
    (backup := fun _ _ _ _ _ _ _ _ _ _ ih =>
      wrapD_layer_length (by rw [List.length_append, List.length_append, words_length, words_length, words_length]) ih)
    (affine := fun _ _ _ _ _ _ ih => wrapD_layer_length (words_length _ _) ih)
    (thin := fun _ _ _ ih => ih)

/-- closed form of the file size -/
theorem dump_length (ty : Ty) (d : Dat) (h : WF ty d) :
    (dump ty d).length = 16 * ((tags ty).length + 1) + payloadLen ty d := by
  rw [dump, wrapD_length, dumpB_length ty d h]; omega

-- non-vacuity: the ATLAS-like stack (affine over linear over row-major float3 array)
example : tags (.affine 4 3 (.thin (.sized T_STRIDED 3 (.array 3)))) = [T_AFFINE, T_STRIDED, T_ARRAY] := rfl
end Covfie.C07
