import CovfieModel.Props.C09
import CovfieModel.Props.C03Round
/-! # C09 — "within rounding", proved under the standard model of floating-point arithmetic

`affApply` (the model of `affine::operator*(vector)`: `t = 0; for k: t += A(i,k) * r(k)` with `r = (v, 1)`) is polymorphic
in the scalar; at `Fl rnd` it is the floating-point evaluation of the loop.  Under the standard model (relative error `u`
per operation) and idempotence of the rounding (`rnd (rnd x) = rnd x`: the first `0 + t` is exact), every output component
is within `((1+u)^(N+1) − 1) · (|A| · |r|)_i` of the exact `A·x + t` (`affApply_round`).  With `gamma_bound` this is the
bound `γ_{N+1} · |A||r|` that the correspondence judge applies to `apply` / `layer` results (its additional slack covers
the subnormal range, where the relative model does not hold). -/
namespace Covfie.C09
open Covfie Covfie.C03

/-- `t = 0; for p in l: t += p.1 * p.2` -/
def dotF {α : Type} [Add α] [Mul α] [OfNat α 0] (l : List (α × α)) : α := l.foldl (fun acc p => acc + p.1 * p.2) 0

def flp (rnd : ℚ → ℚ) (p : ℚ × ℚ) : Fl rnd × Fl rnd := (⟨p.1⟩, ⟨p.2⟩)
def absp (p : ℚ × ℚ) : ℚ × ℚ := (|p.1|, |p.2|)

/-- **dot product of `n` terms**: within `((1+u)^n − 1) · Σ|a_k||r_k|` of the exact value -/
theorem dot_round (u : ℚ) (rnd : ℚ → ℚ) (h : StdModel u rnd) (hid : ∀ x, rnd (rnd x) = rnd x) (l : List (ℚ × ℚ)) :
    |(dotF (l.map (flp rnd))).val - dotF l| ≤ g u l.length * dotF (l.map absp) := by
  have hb := Approx.sum h hid (fun p : ℚ × ℚ => ⟨p.1⟩) (fun p => ⟨p.2⟩) _ _ l
    fun p _ => (Approx.lit p.1).mul h (Approx.lit p.2)
  rw [Nat.zero_add] at hb
  simp only [dotF, List.foldl_map]
  exact hb.1

section rules
variable {u : ℚ} {rnd : ℚ → ℚ} {a b : ℕ}

theorem hom_approx (hu : 0 ≤ u) {N : Nat} {y : Fin N → Fl rnd} {v m : Fin N → ℚ}
    (hy : ∀ k, Approx u rnd (y k) (v k) (m k) b) (k : Fin (N+1)) : Approx u rnd (hom y k) (hom v k) (hom m k) b := by
  unfold hom
  split
  · exact hy _
  · exact Approx.one.mono hu (Nat.zero_le b)

/-- the loop `t = 0; for k: t += x k * y k` of `matrix::operator*` and `affine::operator*(vector)`, on operands that are
    themselves rounded quantities -/
theorem sumFin_approx (h : StdModel u rnd) (hid : ∀ x, rnd (rnd x) = rnd x) {n : Nat} {x y : Fin n → Fl rnd}
    {q r m s : Fin n → ℚ} (hx : ∀ k, Approx u rnd (x k) (q k) (m k) a) (hy : ∀ k, Approx u rnd (y k) (r k) (s k) b) :
    Approx u rnd (sumFin n fun k => x k * y k) (sumFin n fun k => q k * r k) (sumFin n fun k => m k * s k) (a + b + n) := by
  have := Approx.sum h hid x y _ _ (List.finRange n) fun k _ => (hx k).mul h (hy k)
  rwa [List.length_finRange] at this

theorem affApply_approx (h : StdModel u rnd) (hid : ∀ x, rnd (rnd x) = rnd x) {N : Nat} {X : Fin N → Fin (N+1) → Fl rnd}
    {A M : Fin N → Fin (N+1) → ℚ} {y : Fin N → Fl rnd} {v m : Fin N → ℚ} (hX : ∀ i k, Approx u rnd (X i k) (A i k) (M i k) a)
    (hy : ∀ k, Approx u rnd (y k) (v k) (m k) b) (i : Fin N) :
    Approx u rnd (affApply X y i) (affApply A v i) (affApply M m i) (a + b + (N + 1)) :=
  sumFin_approx h hid (hX i) (hom_approx h.1 hy)
end rules

/-- **the affine layer's coordinate map, component `i`**: the floating-point `A·(v,1)` is within
    `((1+u)^(N+1) − 1) · (|A|·(|v|,1))_i` of the exact one -/
theorem affApply_round (u : ℚ) (rnd : ℚ → ℚ) (h : StdModel u rnd) (hid : ∀ x, rnd (rnd x) = rnd x) {N : Nat}
    (A : Fin N → Fin (N+1) → ℚ) (v : Fin N → ℚ) (i : Fin N) :
    |(affApply (fun i k => (⟨A i k⟩ : Fl rnd)) (fun k => (⟨v k⟩ : Fl rnd)) i).val - affApply A v i| ≤
      g u (N + 1) * affApply (fun i k => |A i k|) (fun k => |v k|) i := by
  have := affApply_approx h hid (fun i k => Approx.lit (A i k)) (fun k => Approx.lit (v k)) i
  rw [Nat.zero_add] at this
  exact this.1

end Covfie.C09
