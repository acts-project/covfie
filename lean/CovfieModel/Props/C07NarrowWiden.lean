import CovfieModel.Props.C07Widen
import CovfieModel.Props.C07Narrow
/-! # C07 (round trip of the precision conversions) — `narrowBits (widenBits b) = b` for every non-NaN binary32 pattern. -/
namespace Covfie.C07

/-- **float → double → float is the identity** on every non-NaN pattern (in particular a float file loaded into a
    double field and written back narrows to the original words) -/
theorem narrow_widen (b : Nat) (hb : b < 2^32) (hn : ¬ isNaN32 b) : narrowBits (widenBits b) = b := by
  have hs : b / 2^31 < 2 := Nat.div_lt_of_lt_mul hb
  have hb' : (b / 2^31 % 2) * 2^31 + b % 2^31 = b := by rw [Nat.mod_eq_of_lt hs]; exact Nat.div_add_mod' b _
  by_cases he : b / 2^23 % 2^8 = 255
  · have hm : b % 2^23 = 0 := Classical.not_not.mp fun h => hn ⟨he, h⟩
    obtain ⟨h1, h2, h3⟩ := widenBits_inf b he hm
    rw [narrowBits_inf _ h2 h3, h1, Nat.mod_mod]
    rw [bit_low 23 8 31 b rfl, he, hm] at hb'
    exact hb'
  · -- widening scales `dec32 b` by some `2^k`, which narrowing undoes
    obtain ⟨k, -, hs', he', hd⟩ := widenBits_finite b he
    obtain ⟨c1, c2, c3⟩ := dec32_canon b
    rw [← pack32_dec32 b he] at hb'
    by_cases hM : (dec32 b).1 = 0
    · rw [narrowBits_zero _ he' (by rw [hd, hM, Nat.zero_mul]), hs']
      rw [hM, c3.resolve_right (by omega), show pack32 0 (-149) = 0 from rfl, Nat.add_zero] at hb'
      exact hb'
    · rw [narrowBits_finite _ he' (by rw [hd]; exact Nat.mul_ne_zero hM (Nat.ne_of_gt (Nat.two_pow_pos k))), hd, hs',
        narrowME_scaled _ k _ hM c1 c2 c3]
      exact hb'
end Covfie.C07
