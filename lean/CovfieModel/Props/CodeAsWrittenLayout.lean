import CovfieModel.Props.CodeAsWritten
import CovfieModel.Props.TranslatedStridedCopy
import CovfieModel.Props.C01
/-! C01 / C05 for the kernels as written: distinct in-range coordinates get distinct in-range flat positions, and a conversion
to row-major writes where the row-major lookup reads. -/
namespace Covfie.Code
open Covfie.Imp

/-- C01 (row-major, code as written): the flat position is inside the storage, and two in-range coordinates that are sent to the
same position are equal — whenever the cell count fits the coordinate type. -/
theorem strided_in_storage_no_alias (w F : Nat) (sizes c c' : List Nat) (hb : InBox sizes c) (hb' : InBox sizes c')
    (hfit : prod sizes ≤ 2^w) (hlen : sizes.length < 2^64) (hF : sizes.length < F) (r0 i0 k0 t0 l0 : Nat) :
    ∃ e e', exec w F Ref.strided_index ⟨[sizes.length, r0, i0, k0, t0, l0], [c, sizes]⟩ = some e
      ∧ exec w F Ref.strided_index ⟨[sizes.length, r0, i0, k0, t0, l0], [c', sizes]⟩ = some e'
      ∧ e.sc.getD 1 0 < prod sizes ∧ (e.sc.getD 1 0 = e'.sc.getD 1 0 → c = c') := by
  obtain ⟨e, h1, h2⟩ := strided_position w F c sizes hb hfit hlen hF r0 i0 k0 t0 l0
  obtain ⟨e', h1', h2'⟩ := strided_position w F c' sizes hb' hfit hlen hF r0 i0 k0 t0 l0
  refine ⟨e, e', h1, h1', ?_, ?_⟩
  · rw [h2]; exact Covfie.C01.strided_in_storage sizes c hb
  · intro heq; rw [h2, h2'] at heq; exact Covfie.C01.strided_no_alias sizes c c' hb hb' heq

/-- C05 (code as written): the position `make_strided_copy` writes lattice point `t` to is the position `strided::at` reads
coordinate `t` from. -/
theorem strided_conversion_writes_where_lookup_reads (w F : Nat) (hw : w ≤ 64) (sizes t : List Nat) (hN : sizes.length = t.length)
    (hlen : sizes.length < 2^64) (hF : sizes.length < F) (a0 a1 a2 a3 : Nat) (r0 i0 k0 t0 l0 : Nat) :
    ∃ e e', exec w F Ref.strided_copy_index ⟨[sizes.length, a0, a1, a2, a3], [t, sizes]⟩ = some e
      ∧ exec w F Ref.strided_index ⟨[sizes.length, r0, i0, k0, t0, l0], [t, sizes]⟩ = some e'
      ∧ e.sc.getD 1 0 = e'.sc.getD 1 0 := by
  obtain ⟨e, h1, h2⟩ := strided_copy_index_translated w F hw t sizes hN hlen hF a0 a1 a2 a3
  obtain ⟨e', h1', h2'⟩ := strided_index_translated w F t sizes hN hlen hF r0 i0 k0 t0 l0
  exact ⟨e, e', h1, h1', by rw [h2, h2']⟩

/-- C01 (portable Morton, code as written): two in-range coordinates with the same flat position are equal. -/
theorem morton_no_alias (F : Nat) (sizes c c' : List Nat) (hb : InBox sizes c) (hb' : InBox sizes c') (hN : 0 < sizes.length)
    (hk : ∀ s ∈ sizes, s ≤ 2^(64 / sizes.length)) (hF : 64 < F) (r0 x0 i0 j0 : Nat) :
    ∃ e e', exec 64 F Ref.morton_index ⟨[c.length, 64, r0, x0, i0, j0], [c]⟩ = some e
      ∧ exec 64 F Ref.morton_index ⟨[c'.length, 64, r0, x0, i0, j0], [c']⟩ = some e'
      ∧ (e.sc.getD 2 0 = e'.sc.getD 2 0 → c = c') := by
  have hl := InBox_length sizes c hb
  have hl' := InBox_length sizes c' hb'
  obtain ⟨e, h1, h2⟩ := morton_index_translated F c (by omega) hF r0 x0 i0 j0
  obtain ⟨e', h1', h2'⟩ := morton_index_translated F c' (by omega) hF r0 x0 i0 j0
  exact ⟨e, e', h1, h1', fun heq => by rw [h2, h2'] at heq; exact Covfie.C01.morton_no_alias sizes c c' hb hb' hN hk heq⟩

/-- C01 (Hilbert, code as written): an in-range cell's position is inside the `4^k` cells of the enclosing square, and two in-range
cells with the same position are the same cell. -/
theorem hilbert_in_storage_no_alias (sx sy x y x' y' k : Nat) (hmax : max sx sy ≤ 2^32) (hk : hilN sx sy = 2^k)
    (hsx : sx ≤ 2^k) (hsy : sy ≤ 2^k) (hx : x < sx) (hy : y < sy) (hx' : x' < sx) (hy' : y' < sy)
    (r0 rx0 ry0 s0 d0 x0 y0 n0 t0 : Nat) :
    ∃ e e', exec 64 65 Ref.hilbert_index ⟨[r0, rx0, ry0, s0, d0, x0, y0, n0, t0], [[x, y], [sx, sy]]⟩ = some e
      ∧ exec 64 65 Ref.hilbert_index ⟨[r0, rx0, ry0, s0, d0, x0, y0, n0, t0], [[x', y'], [sx, sy]]⟩ = some e'
      ∧ e.sc.getD 0 0 < 4^k ∧ (e.sc.getD 0 0 = e'.sc.getD 0 0 → x = x' ∧ y = y') := by
  have hk63 := hilN_order_le (Nat.le_trans hmax (Nat.pow_le_pow_right (by omega) (by omega))) hk
  obtain ⟨e, h1, h2⟩ := hilbert_index_translated sx sy x y hmax (by rw [hk]; omega) (by rw [hk]; omega) r0 rx0 ry0 s0 d0 x0 y0 n0 t0
  obtain ⟨e', h1', h2'⟩ := hilbert_index_translated sx sy x' y' hmax (by rw [hk]; omega) (by rw [hk]; omega) r0 rx0 ry0 s0 d0 x0 y0 n0 t0
  refine ⟨e, e', h1, h1', ?_, ?_⟩
  · rw [h2]; exact Covfie.C01.hilbert_in_storage sx sy x y k hk hk63 hx hy hsx hsy
  · intro heq; rw [h2, h2'] at heq; exact Covfie.C01.hilbert_no_alias sx sy x y x' y' k hk hk63 hsx hsy hx hy hx' hy' heq

end Covfie.Code
