import CovfieModel.Model.TmplScript
import CovfieModel.Props.C20
/-! # `utility/static_permutation.hpp` as written determines the model's `sortSeq` / `isPerm` (C20)

The header is a functional program over index sequences written as template specialisations. `harness/cxx2tmpl.py` recognises every
specialisation as one of the equations of `Model/TmplScript.lean`; `Holds` reads an equation as a statement about the meanings of
the five templates. The theorems: *any* meanings that satisfy the recognised equations are the model's functions (`sort_eq`,
`perm_eq`: the equations determine them, by induction on the length), hence have the property (`as_written`); and the model's
functions do satisfy them (`model_satisfies`), so the statement is not vacuous. -/
namespace Covfie.Tmpl
open Covfie

theorem filter_cons_append (q : Nat → Prop) [DecidablePred q] (v : Nat) (vs : List Nat) :
    (v :: vs).filter (fun x => decide (q x)) = (if q v then [v] else []) ++ vs.filter (fun x => decide (q x)) := by
  rw [List.filter_cons]; by_cases hv : q v <;> simp [hv]

theorem filter_eq (q : Nat → Prop) [DecidablePred q] (g : List Nat → List Nat) (h0 : g [] = [])
    (h1 : ∀ v vs, g (v :: vs) = (if q v then [v] else []) ++ g vs) (l : List Nat) :
    g l = l.filter (fun x => decide (q x)) := by
  induction l with
  | nil => exact h0
  | cons v vs ih => rw [h1, ih, filter_cons_append]

variable (F : Funs) (h : ∀ e ∈ Ref.static_permutation, Holds F e)
include h

theorem lt_eq (n : Nat) (l : List Nat) : F.lt n l = l.filter (· < n) := by
  have hc := h .concat (by decide); have h0 := h .ltNil (by decide); have h1 := h .ltCons (by decide)
  exact filter_eq (· < n) (F.lt n) (h0 n) (fun v vs => by rw [h1, hc]) l

theorem geq_eq (n : Nat) (l : List Nat) : F.geq n l = l.filter (fun x => decide (x ≥ n)) := by
  have hc := h .concat (by decide); have h0 := h .geqNil (by decide); have h1 := h .geqCons (by decide)
  exact filter_eq (· ≥ n) (F.geq n) (h0 n) (fun v vs => by rw [h1, hc]) l

theorem sort_eq_fuel : ∀ (f : Nat) (l : List Nat), l.length ≤ f → F.sort l = sortFuel f l := by
  have hc := h .concat (by decide); have h0 := h .sortNil (by decide); have h1 := h .sortCons (by decide)
  refine sortFuel_rel (R := fun l r => F.sort l = r) h0 ?_
  intro p xs ys zs iy iz
  rw [h1, hc, hc, lt_eq F h, geq_eq F h, iy, iz]; rfl

theorem sort_eq (l : List Nat) : F.sort l = sortSeq l := sort_eq_fuel F h l.length l (Nat.le_refl _)

theorem perm_eq (a b : List Nat) : F.perm a b = isPerm a b := by
  have hp := h .permSeq (by decide)
  rw [hp, sort_eq F h, sort_eq F h]; rfl

/-- C20 for the header as written: whatever meanings satisfy the specialisations read as equations, `sort_index_sequence`
yields a sorted rearrangement of its argument and `is_permutation` holds exactly of rearrangements. -/
theorem as_written (l a b : List Nat) :
    (F.sort l).Perm l ∧ (F.sort l).Pairwise (· ≤ ·) ∧ (F.perm a b = true ↔ a.Perm b) := by
  rw [sort_eq F h, perm_eq F h]
  exact ⟨Covfie.C20.sortSeq_perm l, Covfie.C20.sortSeq_sorted l, Covfie.C20.isPerm_iff a b⟩

omit h in
/-- the equations are satisfiable: the model's functions satisfy every one of them (so `as_written` is not vacuous) -/
theorem model_satisfies :
    ∀ e ∈ Ref.static_permutation, Holds ⟨(· ++ ·), fun n l => l.filter (· < n), fun n l => l.filter (fun x => decide (x ≥ n)), sortSeq, isPerm⟩ e := by
  intro e _
  cases e <;> simp only [Holds]
  · intros; trivial
  · intros; rfl
  · intro n v vs; exact filter_cons_append (· < n) v vs
  · intros; rfl
  · intro n v vs; exact filter_cons_append (· ≥ n) v vs
  · rfl
  · exact sortSeq_cons
  · intros; rfl

end Covfie.Tmpl
