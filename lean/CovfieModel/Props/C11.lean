import CovfieModel.Model.Stack
/-! # C11 — Out-of-range lookups return the default without touching the backend -/
namespace Covfie.C11

/-- outside the closed box: the default value, and an empty trace — the backend is not queried -/
theorem backup_outside (lo hi df : List Num) (b : Backend) (c : List Num) (h : outside lo hi c = true) :
    backupL lo hi df b c = .ok (df, []) := by simp [backupL, h]

theorem backup_outside_any_backend (lo hi df : List Num) (b₁ b₂ : Backend) (c : List Num)
    (h : outside lo hi c = true) : backupL lo hi df b₁ c = backupL lo hi df b₂ c :=
  (backup_outside lo hi df b₁ c h).trans (backup_outside lo hi df b₂ c h).symm

/-- inside the closed box: exactly the backend's value (and trace) at that coordinate -/
theorem backup_inside (lo hi df : List Num) (b : Backend) (c : List Num) (h : outside lo hi c = false) :
    backupL lo hi df b c = b c := by simp [backupL, h]

theorem outside_iff (lo hi c : List Num) :
    outside lo hi c = true ↔ ∃ t ∈ zip3With (fun l h x => (l, h, x)) lo hi c, Num.lt t.2.2 t.1 = true ∨ Num.lt t.2.1 t.2.2 = true := by
  unfold outside
  fun_induction zip3With (fun l h x => (l, h, x)) lo hi c
  case case1 ih =>
    simp only [zip3With, List.any_cons, Bool.or_eq_true, List.mem_cons, exists_eq_or_imp, ih, id]
  case case2 hn => rw [zip3With.eq_2 _ _ _ _ hn]; simp

example : outside [.fin 0, .fin 0] [.fin 4, .fin 4] [.fin 4, .fin 0] = false ∧
    outside [.fin 0, .fin 0] [.fin 4, .fin 4] [.fin 5, .fin 0] = true := by decide
end Covfie.C11
