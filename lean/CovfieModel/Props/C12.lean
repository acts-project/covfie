import CovfieModel.Lemmas.Heap
/-! # C12 — Fields stay independent values under any history of construct / copy / move / assign / write /
    layout conversion / dump-load / destroy -/
namespace Covfie.C12
open Covfie.Heap

theorem history_sim (ops : List Op) :
    HInv (ops.foldl cstep cinit) ∧ abs (ops.foldl cstep cinit) = ops.foldl astep (abs cinit) := by
  suffices ∀ s, HInv s → HInv (ops.foldl cstep s) ∧ abs (ops.foldl cstep s) = ops.foldl astep (abs s) from
    this _ inv_cinit
  induction ops with
  | nil => exact fun s h => ⟨h, rfl⟩
  | cons op ops ih =>
    intro s h
    obtain ⟨h', e⟩ := step_sim s h op
    rw [List.foldl_cons, List.foldl_cons, ← e]; exact ih _ h'

/-- after any operation sequence every live field holds exactly the values the plain value model holds … -/
theorem history_refines (ops : List Op) :
    abs (ops.foldl cstep cinit) = ops.foldl astep (abs cinit) := (history_sim ops).2

/-- … and the storage discipline holds: no two live fields share a buffer, every allocated buffer is owned by
    exactly one live field (no leak), nothing was freed twice or used after being freed. -/
theorem history_inv (ops : List Op) : HInv (ops.foldl cstep cinit) := (history_sim ops).1

theorem self_copy_assign (s : AState) (i : Nat) : astep s (.copyAssign i i) = s := by
  dsimp only [astep]; cases s i <;> simp
theorem self_move_assign (s : AState) (i : Nat) : astep s (.moveAssign i i) = s := by
  dsimp only [astep]; cases s i <;> simp

theorem convert_value (s : AState) (d i : Nat) (c : List Nat) (hd : s d = none) (hs : s i = some (.live c)) :
    astep s (.convert d i) d = some (.live c) ∧ ∀ j, j ≠ d → astep s (.convert d i) j = s j := by
  dsimp only [astep]; rw [hd, hs]
  exact ⟨upd_same _ _ _, fun j hj => upd_other _ _ _ _ hj⟩

theorem dumpLoad_value (s : AState) (d i : Nat) (c : List Nat) (hs : s i = some (.live c)) :
    astep s (.dumpLoad d i) d = some (.live c) ∧ ∀ j, j ≠ d → astep s (.dumpLoad d i) j = s j := by
  dsimp only [astep]; rw [hs]
  exact ⟨upd_same _ _ _, fun j hj => upd_other _ _ _ _ hj⟩

theorem self_dumpLoad (s : AState) (i : Nat) : astep s (.dumpLoad i i) = s := by
  dsimp only [astep]
  cases hs : s i with
  | none => rfl
  | some v =>
    cases v with
    | moved n => rfl
    | live c => exact upd_self _ _ _ hs

theorem no_leak_when_all_destroyed (ops : List Op) (hall : ∀ i, (ops.foldl cstep cinit).slots i = none) (a : Addr) :
    (ops.foldl cstep cinit).heap a = none := by
  have h := history_inv ops
  cases hh : (ops.foldl cstep cinit).heap a with
  | none => rfl
  | some b =>
    obtain ⟨i, n, hi⟩ := h.owned a (by simp [hh])
    rw [hall i] at hi; simp at hi

/-- non-vacuity: a history mixing all operation kinds, including self-assignment and use of a moved-from slot -/
def exOps : List Op := [.ctor 0 3, .write 0 1 7, .copyCtor 1 0, .write 1 0 9, .moveCtor 2 0, .copyAssign 0 1,
  .copyAssign 0 0, .moveAssign 1 2, .write 1 2 5, .dtor 2, .moveAssign 0 0, .convert 2 1, .write 2 0 4, .dumpLoad 0 2,
  .dumpLoad 2 2, .convert 3 0, .moveCtor 4 3, .convert 5 3, .dumpLoad 5 3]
example : (exOps.foldl astep (abs cinit)) 0 = some (.live [4, 7, 5]) ∧
          (exOps.foldl astep (abs cinit)) 1 = some (.live [0, 7, 5]) ∧
          (exOps.foldl astep (abs cinit)) 2 = some (.live [4, 7, 5]) ∧
          (exOps.foldl astep (abs cinit)) 3 = some (.moved 3) ∧
          (exOps.foldl astep (abs cinit)) 5 = none := by decide
end Covfie.C12
