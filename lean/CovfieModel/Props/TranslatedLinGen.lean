import CovfieModel.Model.RImpRef
import CovfieModel.Lemmas.RImp
import CovfieModel.Model.Interp
import CovfieModel.Lemmas.Hilbert
/-! # The generic (N ≥ 4) branch of `linear<…>::at`, as translated, is the model's `linGenericC` -/
namespace Covfie.RImp
open Covfie.Imp (iterN)

variable {α : Type} [Add α] [Mul α] [Sub α] [OfNat α 0] [OfNat α 1]

/-- the factor the code picks for axis `m` of corner `n` -/
def wsel (vs rs : List Nat → α) (n m : Nat) : α := if n &&& (1 <<< m) ≠ 0 then vs [m] else rs [m]
/-- `f = f0; for m < D: f *= …` -/
def wprod (vs rs : List Nat → α) (n D : Nat) (f0 : α) : α := (List.range D).foldl (fun f m => f * wsel vs rs n m) f0
/-- `rv[q] = 0; for n < 2^D: rv[q] += (Π_m …) * pc[n][q]` -/
def lgSum (vs rs pc : List Nat → α) (D q : Nat) : α :=
  (List.range (2^D)).foldl (fun acc n => acc + wprod vs rs n D 1 * pc [n, q]) 0

-- `Ref.lin_generic`: integers 0 `D`, 1 `M`, 2 `n`, 3 `q`, 4 `m`; scalar 0 `f`; arrays 0 `vs`, 1 `rs`, 2 `pc`, 3 `rv`
/-- the bodies of the loops over `m`, `n`, `q`; `lgR` is that of the complement loop -/
def lgM : Stmt :=
  .ite (.bin .band .S (.var 2) (.bin .shl .S (.lit 1) (.var 4)))
    (.rassign 0 (.mul (.rvar 0) (.get 0 [(.var 4)]))) (.rassign 0 (.mul (.rvar 0) (.get 1 [(.var 4)])))
def lgN : Stmt :=
  .seq (.rassign 0 .one) (.seq (.iassign 4 (.lit 0)) (.seq (forLt 4 (.var 0) lgM)
    (.rset 3 [(.var 3)] (.add (.get 3 [(.var 3)]) (.mul (.rvar 0) (.get 2 [(.var 2), (.var 3)]))))))
def lgQ : Stmt :=
  .seq (.rset 3 [(.var 3)] .zero) (.seq (.iassign 2 (.lit 0)) (forLt 2 (.bin .shl .S (.lit 1) (.var 0)) lgN))
def lgR : Stmt := .rset 1 [(.var 2)] (.sub .one (.get 0 [(.var 2)]))
theorem lg_shape : Ref.lin_generic = .seq (.seq (.iassign 2 (.lit 0)) (forLt 2 (.var 0) lgR))
    (.seq (.iassign 3 (.lit 0)) (forLt 3 (.var 1) lgQ)) := rfl

theorem lgN_exec (F D M n q m0 : Nat) (f0 : α) (vs rs pc rv : List Nat → α) (hD : D < 64) (hF : D < F) :
    exec F lgN ⟨[D, M, n, q, m0], [f0], [vs, rs, pc, rv]⟩
      = some ⟨[D, M, n, q, D], [wprod vs rs n D 1], [vs, rs, pc, upd rv [q] (rv [q] + wprod vs rs n D 1 * pc [n, q])]⟩ := by
  obtain ⟨_, h⟩ := exec_for_zero F 4 D (.var 0) lgM (e := fun m (f : α) (_ : Unit) => ⟨[D, M, n, q, m], [f], [vs, rs, pc, rv]⟩)
    (step := fun m f => f * wsel vs rs n m) (by omega) (fun _ _ _ => rfl)
    (fun m f _ hm => ⟨(), by
      have hsh : (1 <<< m) % 2^64 = 1 <<< m := by
        rw [Nat.one_shiftLeft]; exact Nat.mod_eq_of_lt (Nat.pow_lt_pow_right (by omega) (by omega))
      by_cases hb : n &&& (1 <<< m) = 0 <;> simp -implicitDefEqProofs only [imp_exec, lgM, wsel, hsh, hb, ne_eq, not_true, not_false_iff]⟩)
    hF 1 ()
  simp -implicitDefEqProofs only [imp_exec, lgN]
  rw [h]
  simp -implicitDefEqProofs only [imp_exec, wprod]

theorem lgQ_exec (F D M q n0 m0 : Nat) (f0 : α) (vs rs pc rv : List Nat → α) (hD : D < 64) (hF : D < F ∧ 2^D < F) :
    ∃ f m, exec F lgQ ⟨[D, M, n0, q, m0], [f0], [vs, rs, pc, rv]⟩
      = some ⟨[D, M, 2^D, q, m], [f], [vs, rs, pc, upd rv [q] (lgSum vs rs pc D q)]⟩ := by
  have h2D : 2^D < 2^64 := Nat.pow_lt_pow_right (by omega) hD
  obtain ⟨⟨f, m⟩, h⟩ := exec_for_zero F 2 (2^D) (.bin .shl .S (.lit 1) (.var 0)) lgN
    (e := fun n (rv : List Nat → α) (x : α × Nat) => ⟨[D, M, n, q, x.2], [x.1], [vs, rs, pc, rv]⟩)
    (step := fun n rv => upd rv [q] (rv [q] + wprod vs rs n D 1 * pc [n, q])) h2D
    (fun _ _ _ => by rw [← Nat.one_shiftLeft] at h2D ⊢; exact Nat.mod_eq_of_lt h2D)
    (fun n rv x _ => ⟨(_, D), lgN_exec F D M n q x.2 x.1 vs rs pc rv hD hF.1⟩)
    hF.2 (upd rv [q] 0) (f0, m0)
  rw [foldl_upd_acc (fun a n => a + wprod vs rs n D 1 * pc [n, q])] at h
  exact ⟨f, m, by simp -implicitDefEqProofs only [imp_exec, lgQ]; exact h⟩

/-- the complements the code computes: `rs[m] = 1 - vs[m]` for `m < D` -/
def compl (D : Nat) (vs rs0 : List Nat → α) : List Nat → α :=
  (iterN (tabStep (fun c => [c]) (fun c => 1 - vs [c])) D (rs0, 0)).1

theorem compl_eq (D : Nat) (vs rs0 : List Nat → α) : compl D vs rs0 = fill (fun c => [c]) (fun c => 1 - vs [c]) D rs0 :=
  congrArg Prod.fst (iterN_fill _ _ D rs0)

theorem compl_at (D : Nat) (vs rs0 : List Nat → α) (m : Nat) (hm : m < D) : compl D vs rs0 [m] = 1 - vs [m] := by
  rw [compl_eq, fill_hit (fun c => [c]) _ _ _ m hm]

theorem lin_generic_exec (F D M : Nat) (vs rs0 pc rv0 : List Nat → α) (hD : D < 64) (hM : M < 2^64)
    (hF : D < F ∧ 2^D < F ∧ M < F) (n0 q0 m0 : Nat) (f0 : α) :
    ∃ n f m, exec F Ref.lin_generic ⟨[D, M, n0, q0, m0], [f0], [vs, rs0, pc, rv0]⟩
      = some ⟨[D, M, n, M, m], [f], [vs, compl D vs rs0, pc, fill (fun q => [q]) (fun q => lgSum vs (compl D vs rs0) pc D q) M rv0]⟩ := by
  obtain ⟨_, hR⟩ := exec_for_zero F 2 D (.var 0) lgR (e := fun c (rs : List Nat → α) (_ : Unit) => ⟨[D, M, c, q0, m0], [f0], [vs, rs, pc, rv0]⟩)
    (step := fun c rs => upd rs [c] (1 - vs [c])) (by omega) (fun _ _ _ => rfl)
    (fun _ _ _ _ => ⟨(), rfl⟩) hF.1 rs0 ()
  rw [← fill, ← compl_eq] at hR
  obtain ⟨⟨n, f, m⟩, hQ⟩ := exec_for_zero F 3 M (.var 1) lgQ
    (e := fun q (rv : List Nat → α) (x : Nat × α × Nat) => ⟨[D, M, x.1, q, x.2.2], [x.2.1], [vs, compl D vs rs0, pc, rv]⟩)
    (step := fun q rv => upd rv [q] (lgSum vs (compl D vs rs0) pc D q)) hM (fun _ _ _ => rfl)
    (fun q rv x _ => by
      obtain ⟨f', m', h⟩ := lgQ_exec F D M q x.1 x.2.2 x.2.1 vs (compl D vs rs0) pc rv hD ⟨hF.1, hF.2.1⟩
      exact ⟨(2^D, f', m'), h⟩)
    hF.2.2 rv0 (D, f0, m0)
  refine ⟨n, f, m, ?_⟩
  rw [lg_shape]
  simp -implicitDefEqProofs only [imp_exec]
  rw [hR]
  simp -implicitDefEqProofs only [imp_exec]
  exact hQ

/-- The generic branch of `linear<…>::at` as written (complement loop and weighted-sum nest): component `q` of the result is
`Σ_n (Π_m (bit m of n ? vs[m] : 1 - vs[m])) · pc[n][q]`, the product accumulated from 1 in the order m = 0 … D−1, the sum from 0 in
the order n = 0 … 2^D − 1. -/
theorem lin_generic_translated (F D M : Nat) (vs rs0 pc rv0 : List Nat → α) (hD : D < 64) (hM : M < 2^64)
    (hF : D < F ∧ 2^D < F ∧ M < F) (n0 q0 m0 : Nat) (f0 : α) :
    ∃ env' : Env α, exec F Ref.lin_generic ⟨[D, M, n0, q0, m0], [f0], [vs, rs0, pc, rv0]⟩ = some env'
      ∧ ∀ q, q < M → (env'.arr.getD 3 (fun _ => 0)) [q] = lgSum vs (compl D vs rs0) pc D q := by
  obtain ⟨n, f, m, h⟩ := lin_generic_exec F D M vs rs0 pc rv0 hD hM hF n0 q0 m0 f0
  exact ⟨_, h, fun q hq => fill_hit (fun q => [q]) _ _ _ q hq⟩

theorem wsel_eq (vs rs : List Nat → α) (n m : Nat) : wsel vs rs n m = if n / 2^m % 2 == 1 then vs [m] else rs [m] := by
  have h := Covfie.and_pow_pos n m
  rw [wsel, Nat.one_shiftLeft]
  by_cases hb : n &&& 2^m = 0
  · rw [hb] at h; simp [hb, ← h]
  · rw [if_pos (by omega)] at h; simp [hb, ← h]

theorem wprod_eq_weightGo (vs rs : List Nat → α) (n : Nat) : ∀ d m0 (f : α),
    (∀ m, m0 ≤ m → m < m0 + d → rs [m] = 1 - vs [m]) →
    (List.range' m0 d).foldl (fun f m => f * wsel vs rs n m) f
      = weightGo ((List.range' m0 d).map (fun m => vs [m])) (n / 2^m0) f := by
  intro d
  induction d with
  | zero => intro m0 f _; rfl
  | succ d ih =>
    intro m0 f h
    rw [List.range'_succ, List.foldl_cons, List.map_cons, weightGo, ih (m0 + 1) _ (fun m h1 h2 => h m (by omega) (by omega)),
      Nat.div_div_eq_div_mul, ← Nat.pow_succ, wsel_eq, h m0 (Nat.le_refl _) (by omega)]

theorem wprod_eq_weightC (vs rs : List Nat → α) (n D : Nat) (h : ∀ m, m < D → rs [m] = 1 - vs [m]) :
    wprod vs rs n D 1 = weightC ((List.range D).map (fun m => vs [m])) n := by
  rw [wprod, weightC, List.range_eq_range', wprod_eq_weightGo vs rs n D 0 1 (fun m _ hm => h m (by omega)), Nat.pow_zero, Nat.div_one]

/-- little-endian value of a bit list -/
def fromBits : List Bool → Nat
  | [] => 0
  | b :: bs => (if b then 1 else 0) + 2 * fromBits bs

theorem fromBits_bitsOf : ∀ N n, n < 2^N → fromBits (bitsOf N n) = n := by
  intro N
  induction N with
  | zero => intro n h; simp at h; subst h; rfl
  | succ N ih =>
    intro n h
    rw [bitsOf, fromBits, ih (n / 2) (by rw [Nat.pow_succ] at h; omega)]
    by_cases hb : n % 2 = 1 <;> simp [hb] <;> omega

/-- Component `q` of what the generic branch as written computes is the model's `linGenericC` of the fractions and the corner
values (hence, `Covfie.C03.linGenericC_eq` / `generic_eq_nlin`, the N-linear interpolant). -/
theorem lin_generic_translated_model (F D M : Nat) (vs rs0 pc rv0 : List Nat → α) (hD : D < 64) (hM : M < 2^64)
    (hF : D < F ∧ 2^D < F ∧ M < F) (n0 q0 m0 : Nat) (f0 : α) :
    ∃ env' : Env α, exec F Ref.lin_generic ⟨[D, M, n0, q0, m0], [f0], [vs, rs0, pc, rv0]⟩ = some env'
      ∧ ∀ q, q < M → (env'.arr.getD 3 (fun _ => 0)) [q]
          = linGenericC ((List.range D).map (fun m => vs [m])) (fun bs => pc [fromBits bs, q]) := by
  obtain ⟨env', h1, h2⟩ := lin_generic_translated F D M vs rs0 pc rv0 hD hM hF n0 q0 m0 f0
  refine ⟨env', h1, fun q hq => ?_⟩
  rw [h2 q hq, lgSum, linGenericC, List.length_map, List.length_range]
  exact foldl_congr _ _ _ _ (fun acc n hn => by
    rw [fromBits_bitsOf D n (List.mem_range.mp hn), wprod_eq_weightC _ _ n D (compl_at D vs rs0)])

/-! Another reading of the loops over `n` and `q`, which the theorems above do not go through: iterated steps (`iterN`) on
records of all their variables, counters included, with what `k` steps do to the counter. -/

structure LN (α : Type) where
  rv : List Nat → α
  n : Nat
  f : α
  m : Nat

def lgStepN (vs rs pc : List Nat → α) (D q : Nat) (s : LN α) : LN α :=
  ⟨upd s.rv [q] (s.rv [q] + wprod vs rs s.n D 1 * pc [s.n, q]), s.n + 1, wprod vs rs s.n D 1, D⟩

theorem lgN_iterN_n (vs rs pc : List Nat → α) (D q : Nat) : ∀ k (s : LN α), (iterN (lgStepN vs rs pc D q) k s).n = s.n + k :=
  Imp.iterN_count LN.n _ (fun _ => rfl)

structure LQ (α : Type) where
  rv : List Nat → α
  q : Nat
  n : Nat
  f : α
  m : Nat

def lgStepQ (vs rs pc : List Nat → α) (D : Nat) (s : LQ α) : LQ α :=
  let r := iterN (lgStepN vs rs pc D s.q) (2^D) ⟨upd s.rv [s.q] 0, 0, s.f, s.m⟩
  ⟨r.rv, s.q + 1, r.n, r.f, r.m⟩

theorem lgQ_iterN_q (vs rs pc : List Nat → α) (D : Nat) : ∀ k (s : LQ α), (iterN (lgStepQ vs rs pc D) k s).q = s.q + k :=
  Imp.iterN_count LQ.q _ (fun _ => rfl)

end Covfie.RImp
