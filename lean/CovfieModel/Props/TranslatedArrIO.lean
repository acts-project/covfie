import CovfieModel.Model.ArrScript
import CovfieModel.Lemmas.IO
/-! # The array layer's `write_binary` / `read_binary` as written are the model's `dumpB` / `loadB` clauses for `Ty.array`

`harness/cxx2io.py` (`io_array`) recognises the statements of the two members — the width word chosen from the scalar type, the raw
cell count, the double loop over cells and components with the width-dependent read — as the script `ARef`; `awr` / `ard` give
the script its meaning, and `dump_array` / `load_array` say that this meaning is exactly what the model dumps and loads. -/
namespace Covfie.IO

theorem range_mul_flatMap {β} (f : Nat → List β) (M : Nat) : ∀ n,
    (List.range (n * M)).flatMap f = (List.range n).flatMap fun i => (List.range M).flatMap fun j => f (i * M + j)
  | 0 => by simp
  | n+1 => by
    rw [Nat.succ_mul, List.range_add, List.flatMap_append, range_mul_flatMap f M n, List.range_succ, List.flatMap_append,
      List.flatMap_map, List.flatMap_singleton]

theorem map_range_getD {α} (l : List α) (d : α) : (List.range l.length).map (fun i => l.getD i d) = l := by
  apply List.ext_getElem
  · simp
  · intro i h _
    simp at h
    simp [h]

theorem cellBytes_eq_words (wd M : Nat) : ∀ (count : Nat) (cells : List Nat), cells.length = count * M →
    cellBytes wd M cells count = words wd cells := by
  intro count cells h
  unfold cellBytes words
  rw [← range_mul_flatMap fun k => le wd (cells.getD k 0), ← h, ← List.flatMap_map (f := fun k => cells.getD k 0),
    map_range_getD]

/-- the array layer's writer as written is the model's `dumpB` clause -/
theorem dump_array (M wd count : Nat) (cells : List Nat) (h : cells.length = count * M) :
    dumpB (.array M) (.array wd count cells) = awr M wd count cells ARef.write := by
  simp [dumpB, awr, ARef.write, wrapD, cellBytes_eq_words wd M count cells h, List.append_assoc]

theorem readN_add {α} (p : Parser α) (a b : Nat) :
    readN p (a + b) = bindP (readN p a) fun x => bindP (readN p b) fun y => pureP (x ++ y) := by
  induction a with
  | zero => simp [readN, bindP_pure, bindP_pure_right]
  | succ n ih =>
    rw [show n + 1 + b = (n + b) + 1 by omega]
    simp only [readN, ih, bindP_assoc, bindP_pure, List.cons_append]

theorem loopP_readN {α} (p : Parser α) (M : Nat) : ∀ n, loopP (readN p M) n = readN p (n * M) := by
  intro n
  induction n with
  | zero => simp [loopP, readN]
  | succ n ih => rw [Nat.succ_mul, Nat.add_comm (n * M) M, readN_add]; show bindP _ _ = _; rw [ih]

theorem compP_eq (wd : Nat) (h : wd = 4 ∨ wd = 8) : compP wd = rd wd := by
  rcases h with rfl | rfl <;> simp [compP]

/-- the array layer's reader as written is the model's `loadB` clause -/
theorem load_array (M wd0 n0 : Nat) (c0 : List Nat) : loadB (.array M) = ard M ARef.read wd0 n0 c0 := by
  simp only [loadB, ard, ARef.read, wrapP, bindP_assoc]
  congr 1; funext _; congr 1; funext wd
  -- the model asks whether the width is 4 or 8, the code whether it is neither
  by_cases h : wd = 4 ∨ wd = 8
  · simp only [if_pos h, if_neg (show ¬(wd ≠ 4 ∧ wd ≠ 8) by omega), loopP_readN, compP_eq wd h, bindP_assoc, bindP_pure]
  · simp only [if_neg h, if_pos (show wd ≠ 4 ∧ wd ≠ 8 by omega)]; rfl

end Covfie.IO
