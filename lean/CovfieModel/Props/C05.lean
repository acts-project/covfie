import CovfieModel.Model.Convert
import CovfieModel.Props.C01
/-! # C05 — Changing representation preserves the field -/
namespace Covfie.C05
variable {α : Type}

/-- the last write to a cell wins: cell `j` holds the value of the last visited tuple that `idx` sends to `j` -/
theorem fill_eq (idx : List Nat → Nat) (src : List Nat → α) (ts : List (List Nat)) (st : Nat → Option α) (j : Nat) :
    fill idx src ts st j = ((ts.reverse.find? (idx · = j)).map src).or (st j) := by
  unfold fill
  induction ts generalizing st with
  | nil => rfl
  | cons u us ih =>
    rw [List.foldl_cons, ih, List.reverse_cons, List.find?_append]
    cases us.reverse.find? (idx · = j) with
    | some t => rfl
    | none =>
      by_cases h : idx u = j
      · simp [writeF, h]
      · simp [writeF, h, Ne.symm h]

theorem fill_read (idx : List Nat → Nat) (src : List Nat → α) (ts : List (List Nat)) (st : Nat → Option α)
    (hinj : ∀ t ∈ ts, ∀ t' ∈ ts, idx t = idx t' → t = t') (t : List Nat) (ht : t ∈ ts) :
    fill idx src ts st (idx t) = some (src t) := by
  rw [fill_eq]
  cases h : ts.reverse.find? (idx · = idx t) with
  | none => exact absurd (by simp) (List.find?_eq_none.mp h t (List.mem_reverse.mpr ht))
  | some t' =>
    have := hinj t' (List.mem_reverse.mp (List.mem_of_find?_eq_some h)) t ht (by simpa using List.find?_some h)
    rw [this]; rfl

/-- **the converted field holds the source's value at every lattice coordinate**, for any target layout whose
    index function is injective on the box (row-major, Morton in both implementations, Hilbert — by C01) -/
theorem convert_at (idx : List Nat → Nat) (sizes : List Nat) (src : List Nat → α)
    (hinj : ∀ c c', InBox sizes c → InBox sizes c' → idx c = idx c' → c = c')
    (c : List Nat) (hc : InBox sizes c) : convert idx sizes src (idx c) = some (src c) :=
  fill_read idx src (ndMap sizes) _
    (fun t ht t' ht' e => hinj t t' ((mem_ndMap _ _).mp ht) ((mem_ndMap _ _).mp ht') e)
    c ((mem_ndMap _ _).mpr hc)

theorem convert_to_strided (sizes : List Nat) (src : List Nat → α) (c : List Nat) (hc : InBox sizes c) :
    convert (stridedIdx sizes) sizes src (stridedIdx sizes c) = some (src c) :=
  convert_at _ sizes src (fun a b ha hb e => strided_inj sizes a b ha hb e) c hc

/-- Morton target (portable loop; the BMI2 path computes the same index, C14) -/
theorem convert_to_morton (sizes : List Nat) (src : List Nat → α) (c : List Nat) (hc : InBox sizes c)
    (hN : 0 < sizes.length) (hk : ∀ s ∈ sizes, s ≤ 2^(64 / sizes.length)) :
    convert mortonLoop sizes src (mortonLoop c) = some (src c) :=
  convert_at _ sizes src (fun a b ha hb e => C01.morton_no_alias sizes a b ha hb hN hk e) c hc

/-- converting there and back reproduces the original at every lattice coordinate -/
theorem convert_back (idx₁ idx₂ : List Nat → Nat) (sizes : List Nat) (f : List Nat → α)
    (h₁ : ∀ c c', InBox sizes c → InBox sizes c' → idx₁ c = idx₁ c' → c = c')
    (h₂ : ∀ c c', InBox sizes c → InBox sizes c' → idx₂ c = idx₂ c' → c = c')
    (c : List Nat) (hc : InBox sizes c) :
    convert idx₁ sizes (fun t => (convert idx₂ sizes f (idx₂ t))) (idx₁ c) = some (some (f c)) := by
  rw [convert_at idx₁ sizes _ h₁ c hc, convert_at idx₂ sizes f h₂ c hc]

example : convert (stridedIdx [2, 3]) [2, 3] (fun t => t.sum) 5 = some 3 := by decide

theorem convert_to_hilbert {α : Type} (sx sy k : Nat) (src : List Nat → α) (hk : hilN sx sy = 2^k) (hk63 : k ≤ 63)
    (hsx : sx ≤ 2^k) (hsy : sy ≤ 2^k) (x y : Nat) (hx : x < sx) (hy : y < sy) :
    convert (hilbertIdx [sx, sy]) [sx, sy] src (hilbertIdx [sx, sy] [x, y]) = some (src [x, y]) := by
  refine convert_at _ [sx, sy] src (fun c c' hc hc' e => ?_) [x, y] ⟨hx, hy, trivial⟩
  rcases c with _ | ⟨a, _ | ⟨b, _ | _⟩⟩ <;> simp only [InBox, and_false, and_true] at hc
  rcases c' with _ | ⟨a', _ | ⟨b', _ | _⟩⟩ <;> simp only [InBox, and_false, and_true] at hc'
  obtain ⟨rfl, rfl⟩ := C01.hilbert_no_alias sx sy a b a' b' k hk hk63 hsx hsy hc.1 hc.2 hc'.1 hc'.2 e
  rfl

theorem fillA_size (idx : List Nat → Nat) (src : List Nat → α) (ts : List (List Nat)) (st : Array α) :
    (fillA idx src ts st).size = st.size := by
  unfold fillA
  induction ts generalizing st with
  | nil => rfl
  | cons t ts ih => simp only [List.foldl_cons]; rw [ih]; simp

/-- inside the array the fold over tabulated storage is the fold over sparse storage (writes outside are dropped by the one
    and never read by the other) -/
theorem fillA_get (idx : List Nat → Nat) (src : List Nat → α) (ts : List (List Nat)) (st : Array α)
    (j : Nat) (hj : j < st.size) : (fillA idx src ts st)[j]? = fill idx src ts (fun j => st[j]?) j := by
  unfold fillA
  induction ts generalizing st with
  | nil => rfl
  | cons t ts ih =>
    rw [List.foldl_cons, ih _ (by simpa using hj), fill_eq, fill_eq, List.reverse_cons, List.find?_append]
    cases ts.reverse.find? (idx · = j) with
    | some u => rfl
    | none =>
      by_cases e : idx t = j
      · subst e; simp [hj]
      · simp [e]

theorem convertA_size (idx : List Nat → Nat) (sizes : List Nat) (len : Nat) (zero : α) (src : List Nat → α) :
    (convertA idx sizes len zero src).size = len := by
  unfold convertA; rw [fillA_size]; simp

/-- **the tabulated storage the driver computes is the storage of the functional model**: cell `j` holds what the fold
    of writes put there, and the value-initialised `zero` where nothing was written -/
theorem convertA_get (idx : List Nat → Nat) (sizes : List Nat) (len : Nat) (zero : α) (src : List Nat → α)
    (j : Nat) (hj : j < len) :
    (convertA idx sizes len zero src)[j]? = some ((convert idx sizes src j).getD zero) := by
  unfold convertA convert
  rw [fillA_get _ _ _ _ j (by simpa using hj), fill_eq, fill_eq]
  cases ((ndMap sizes).reverse.find? (idx · = j)).map src <;> simp [hj]

theorem convertA_toList (idx : List Nat → Nat) (sizes : List Nat) (len : Nat) (zero : α) (src : List Nat → α)
    (h : ∀ c, InBox sizes c → idx c < len) :
    (convertA idx sizes len zero src).toList = (List.range len).map fun j => (convert idx sizes src j).getD zero := by
  apply List.ext_getElem?
  intro j
  by_cases hj : j < len
  · rw [Array.getElem?_toList, convertA_get idx sizes len zero src j hj]
    simp [hj]
  · have : (convertA idx sizes len zero src).toList.length = len := by simp [convertA_size]
    rw [List.getElem?_eq_none (by omega), List.getElem?_eq_none (by simp; omega)]

theorem fillA_congr (idx : List Nat → Nat) (src src' : List Nat → α) (ts : List (List Nat)) (st : Array α)
    (h : ∀ t ∈ ts, src t = src' t) : fillA idx src ts st = fillA idx src' ts st := by
  unfold fillA
  induction ts generalizing st with
  | nil => rfl
  | cons t ts ih =>
    simp only [List.foldl_cons]
    rw [h t List.mem_cons_self]
    exact ih _ (fun u hu => h u (List.mem_cons_of_mem _ hu))

theorem convertA_at (idx : List Nat → Nat) (sizes : List Nat) (len : Nat) (zero : α) (src : List Nat → α)
    (h : ∀ c, InBox sizes c → idx c < len)
    (hinj : ∀ c c', InBox sizes c → InBox sizes c' → idx c = idx c' → c = c')
    (c : List Nat) (hc : InBox sizes c) : (convertA idx sizes len zero src)[idx c]?.getD zero = src c := by
  rw [convertA_get idx sizes len zero src (idx c) (h c hc), convert_at idx sizes src hinj c hc]; rfl

/-- **converting back reproduces the original storage, cell for cell** (including the value-initialised cells no
    coordinate maps to), for any source layout `idx₁` and any injective in-range target layout `idx₂` -/
theorem convert_back_storage (idx₁ idx₂ : List Nat → Nat) (sizes : List Nat) (len₁ len₂ : Nat) (zero : α) (f : List Nat → α)
    (h₂ : ∀ c, InBox sizes c → idx₂ c < len₂)
    (inj₂ : ∀ c c', InBox sizes c → InBox sizes c' → idx₂ c = idx₂ c' → c = c') :
    convertA idx₁ sizes len₁ zero (fun t => (convertA idx₂ sizes len₂ zero f)[idx₂ t]?.getD zero)
      = convertA idx₁ sizes len₁ zero f := by
  apply fillA_congr
  intro t ht
  exact convertA_at idx₂ sizes len₂ zero f h₂ inj₂ t ((mem_ndMap _ _).mp ht)

/-- the configuration (extents) is carried over unchanged and the new storage has exactly the allocated length -/
theorem convert_config (idx : List Nat → Nat) (sizes : List Nat) (len : Nat) (zero : α) (src : List Nat → α) :
    (sizes, (convertA idx sizes len zero src).size) = (sizes, len) := by rw [convertA_size]
end Covfie.C05
