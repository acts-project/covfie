import CovfieModel.Props.Translated
/-! # The index loop of `make_strided_copy` (the position a conversion to row-major writes to) is `stridedIdxW` too

The loops are those of `strided::at` (`Props/Translated.lean`) with the variables numbered differently and the inner product
taken at 64 bits and then cast, `(T)(tmp * sizes[l])`, instead of `tmp * (T)sizes[l]`. -/
namespace Covfie.Imp

-- `Ref.strided_copy_index`: variables 0 `N`, 1 `idx`, 2 `k`, 3 `tmp`, 4 `l`; arrays 0 `t`, 1 `sizes`
def scL : Stmt := .assign 3 .T (.bin .mul .S (.var 3) (.idx 1 (.var 4)))
def scK : Stmt :=
  .seq (.assign 3 .T (.idx 0 (.var 2)))
    (.seq (.seq (.assign 4 .S (.bin .add .S (.var 2) (.lit 1))) (forLt 4 (.var 0) scL)) (.assign 1 .T (.bin .add .T (.var 1) (.var 3))))
theorem sc_shape : Ref.strided_copy_index = .seq (.assign 1 .T (.lit 0))
    (.seq (.assign 2 .S (.lit 0)) (forLt 2 (.var 0) scK)) := rfl

theorem scK_exec (w F : Nat) (hw : w ≤ 64) (c sizes : List Nat) (hlen : sizes.length < 2^64) (hF : sizes.length < F)
    (idx k t0 l0 : Nat) (hk : k < sizes.length) :
    exec w F scK ⟨[sizes.length, idx, k, t0, l0], [c, sizes]⟩
      = some ⟨[sizes.length, stridedStep w c sizes k idx, k,
          stridedTmpW w (c.getD k 0 % 2^w) (sizes.drop (k + 1)), sizes.length], [c, sizes]⟩ := by
  obtain ⟨_, hL⟩ := exec_for w F 4 sizes.length (.var 0) scL
    (e := fun l (t : Nat) (_ : Unit) => ⟨[sizes.length, idx, k, t, l], [c, sizes]⟩)
    (step := fun l t => t * (sizes.getD l 0 % 2^w) % 2^w) hlen (fun _ _ _ => rfl)
    (fun l t _ _ => ⟨(), by
      simp -implicitDefEqProofs only [imp_exec, scL, Nat.mod_mod_of_dvd _ (Nat.pow_dvd_pow 2 hw)]
      rw [Nat.mul_mod t, Nat.mul_mod t (_ % _), Nat.mod_mod]⟩) (k + 1) hk (by omega) (c.getD k 0 % 2^w) ()
  rw [stridedTmp_loop w sizes _ _ _ (by omega)] at hL
  simp -implicitDefEqProofs only [imp_exec, scK, Nat.mod_eq_of_lt (show k + 1 < 2^64 by omega)]
  rw [hL]
  simp -implicitDefEqProofs only [imp_exec, stridedStep]

theorem strided_copy_index_exec (w F : Nat) (hw : w ≤ 64) (c sizes : List Nat) (hN : sizes.length = c.length)
    (hlen : sizes.length < 2^64) (hF : sizes.length < F) (i0 k0 t0 l0 : Nat) :
    ∃ t l, exec w F Ref.strided_copy_index ⟨[sizes.length, i0, k0, t0, l0], [c, sizes]⟩
      = some ⟨[sizes.length, stridedIdxW w sizes c, sizes.length, t, l], [c, sizes]⟩ := by
  obtain ⟨⟨t, l⟩, h⟩ := exec_for_zero w F 2 sizes.length (.var 0) scK
    (e := fun k idx (j : Nat × Nat) => ⟨[sizes.length, idx, k, j.1, j.2], [c, sizes]⟩) (step := stridedStep w c sizes) hlen
    (fun _ _ _ => rfl) (fun k idx j hk => ⟨(_, _), scK_exec w F hw c sizes hlen hF idx k j.1 j.2 hk⟩) hF 0 (t0, l0)
  rw [stridedStep_loop w c sizes hN] at h
  refine ⟨t, l, ?_⟩
  rw [sc_shape]
  simp -implicitDefEqProofs only [imp_exec]
  exact h

/-- The index loop inside `make_strided_copy` as written leaves `stridedIdxW w sizes t` in `idx`: a conversion to row-major writes
the cell of lattice point `t` exactly where `strided::at` will look for it (`strided_index_translated`). -/
theorem strided_copy_index_translated (w F : Nat) (hw : w ≤ 64) (c sizes : List Nat) (hN : sizes.length = c.length)
    (hlen : sizes.length < 2^64) (hF : sizes.length < F) (i0 k0 t0 l0 : Nat) :
    ∃ env', exec w F Ref.strided_copy_index ⟨[sizes.length, i0, k0, t0, l0], [c, sizes]⟩ = some env'
      ∧ env'.sc.getD 1 0 = stridedIdxW w sizes c := by
  obtain ⟨t, l, h⟩ := strided_copy_index_exec w F hw c sizes hN hlen hF i0 k0 t0 l0
  exact ⟨_, h, rfl⟩

end Covfie.Imp
