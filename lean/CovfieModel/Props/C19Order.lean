import CovfieModel.Lemmas.NdMap
import CovfieModel.Lemmas.Strided
/-! # C19 — the order of the (sequential) visit

`nd_map` calls back in row-major order: the `k`-th tuple it hands to the callback is the tuple whose row-major (strided)
index is `k` (`visit_order`).  Consequences: the visit is strictly increasing in the row-major index, the tuple visited at
position `k` is determined by `k` alone, and the copy loops of the layout conversions (`make_strided_copy` writes
`res[stridedIdx t]` for every visited `t`) fill the cells `0, 1, …, Π sz − 1` one after the other, each exactly once. -/
namespace Covfie.C19
open Covfie

/-- **row-major order**: mapping the visited tuples to their strided index gives `0, 1, …, Π sz − 1` -/
theorem visit_order (sz : List Nat) : (ndMap sz).map (stridedIdx sz) = List.range (prod sz) := ndMap_order sz

theorem visit_count' (sz : List Nat) : (ndMap sz).length = prod sz := (ndMap_length sz).trans (prodL_eq sz)

theorem kth_visit (sz : List Nat) (k : Nat) (hk : k < (ndMap sz).length) : stridedIdx sz ((ndMap sz)[k]) = k := by
  have h := congrArg (fun l => l[k]?) (visit_order sz)
  have hk2 : k < prod sz := by rw [← visit_count']; exact hk
  simp only [List.getElem?_map, List.getElem?_eq_getElem hk, Option.map_some, List.getElem?_range hk2] at h
  exact Option.some.inj h

/-- the visit is strictly increasing in the row-major index (so: lexicographic, last component fastest) -/
theorem visit_increasing (sz : List Nat) : ((ndMap sz).map (stridedIdx sz)).Pairwise (· < ·) := by
  rw [visit_order]
  exact List.pairwise_lt_range

/-- a conversion loop `for t in nd_map(sz): res[stridedIdx sz t] := v t` writes cell `k` with the value of the `k`-th tuple:
    the array it leaves is the list of values in visiting order -/
theorem copy_loop_fills_in_order {α : Type} (sz : List Nat) (v : List Nat → α) (k : Nat) (hk : k < prod sz) :
    ∃ t, t ∈ ndMap sz ∧ stridedIdx sz t = k ∧ ((ndMap sz).map v)[k]? = some (v t) := by
  have hk' : k < (ndMap sz).length := by rw [visit_count']; exact hk
  refine ⟨(ndMap sz)[k], List.getElem_mem hk', kth_visit sz k hk', ?_⟩
  simp [hk']

example : (ndMap [2, 3]).map (stridedIdx [2, 3]) = [0, 1, 2, 3, 4, 5] := by decide
end Covfie.C19
