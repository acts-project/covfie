import CovfieModel.Model.Stack
import CovfieModel.Props.C01
import CovfieModel.Props.C02
import CovfieModel.Props.C03
import CovfieModel.Lemmas.Strided
import CovfieModel.Lemmas.NdMap
import CovfieModel.Lemmas.Morton
/-! # C15 — No undefined behaviour on the documented domain (the arithmetic conditions the evaluator instruments:
    out-of-bounds index, negative index, float→integer conversion out of range). Partial: everything else
    (uninitialised reads, lifetime, missing return, …) is observed by the sanitizer builds of the harness. -/
namespace Covfie.C15

def coordOf (c : List Nat) : List Num := c.map fun (n : Nat) => Num.fin (n : Rat)

theorem layout_array_safe (idx : List Nat → Nat) (cells : List (List Num)) (c : List Nat) (h : idx c < cells.length) :
    layoutL idx (arrayB cells) (coordOf c) = .ok (cells[idx c], [idx c]) :=
  layoutL_eq_ok.2 ⟨c, mapE_natOf_natCast c, arrayB_eq_ok.2 ⟨_, rfl, List.getElem?_eq_getElem h, rfl⟩⟩

/-- the cell `j` that the order selects is given by an equation: the form in which each storage order's index and
    storage bound (C01) are put in -/
theorem layout_array_cell (idx : List Nat → Nat) (cells : List (List Num)) (c : List Nat) {j : Nat} (hj : idx c = j)
    (h : j < cells.length) : ∃ v, layoutL idx (arrayB cells) (coordOf c) = .ok (v, [j]) ∧ j < cells.length := by
  subst hj; exact ⟨_, layout_array_safe idx cells c h, h⟩

/-- a row-major array-backed field: every in-range integer coordinate is looked up without any of the modelled
    UB conditions, and the only cell touched is the row-major one, inside the storage -/
theorem strided_array_safe (cv : Conv) (w : Nat) (sz c : List Nat) (cells : List (List Num))
    (hc : InBox sz c) (hlen : cells.length = prod sz) (hfit : prod sz ≤ 2^w) :
    ∃ v, eval cv (.strided w .array) (.sized sz (.array cells)) (coordOf c) = .ok (v, [stridedIdx sz c]) ∧
         stridedIdx sz c < cells.length :=
  layout_array_cell _ cells c (strided_nowrap w sz c hc hfit) (hlen ▸ strided_lt sz c hc)

#guard (eval (fun x => .ok x) (.strided 64 .array) (.sized [2, 2] (.array [[.fin 1], [.fin 2], [.fin 3], [.fin 4]]))
    (coordOf [1, 0])) matches .ok ([.fin 3], [2])

/-- the same for the portable Morton index -/
theorem morton_array_safe (cv : Conv) (sz c : List Nat) (cells : List (List Num)) (k : Nat)
    (hc : InBox sz c) (hN : 0 < sz.length) (hk : ∀ s ∈ sz, s ≤ 2^k) (hlen : cells.length = 2^(k * sz.length)) :
    ∃ v, eval cv (.mortonF .array) (.sized sz (.array cells)) (coordOf c) = .ok (v, [mortonLoop c]) ∧
         mortonLoop c < cells.length :=
  layout_array_cell mortonLoop cells c rfl (hlen ▸ C01.morton_in_storage sz c k hc hN hk)

theorem linear_safe (bk : Backend) (c : List Num) (parts : List (Nat × Rat)) (hp : mapE truncIdx c = .ok parts)
    (P : Nat → Prop)
    (hb : ∀ bs ∈ corners c.length, ∃ v t, bk (addBits (parts.map (·.1)) bs) = .ok (v, t) ∧ ∀ i ∈ t, P i) :
    ∃ v t, linearL bk c = .ok (v, t) ∧ ∀ i ∈ t, P i := by
  obtain ⟨rs, hrs, hq⟩ := mapE_ok_of_forall (f := cornerQuery bk (parts.map (·.1))) (fun r => ∀ i ∈ r.2.2, P i)
    fun bs hbs =>
      let ⟨v, t, hvt, hP⟩ := hb bs hbs
      ⟨(bs, (v, t)), cornerQuery_eq_ok.2 ⟨hvt, rfl⟩, hP⟩
  obtain ⟨v, hv⟩ := linearL_ok hp hrs
  refine ⟨v, _, hv, fun i hi => ?_⟩
  obtain ⟨r, hr, hir⟩ := List.mem_flatMap.1 hi
  exact hq r hr i hir

/-- linear interpolation over any storage order over an array: if the upper neighbours `i_k + 1` of the integer parts lie
    in the grid and the order maps the grid into the storage, all `2^N` cells read lie inside the storage -/
theorem linear_layout_array_safe (idx : List Nat → Nat) (sz : List Nat) (cells : List (List Num)) (c : List Num)
    (parts : List (Nat × Rat)) (hp : mapE truncIdx c = .ok parts)
    (hbox : InBox sz ((parts.map (·.1)).map (· + 1))) (hidx : ∀ p, InBox sz p → idx p < cells.length) :
    ∃ v t, linearL (layoutL idx (arrayB cells)) c = .ok (v, t) ∧ ∀ i ∈ t, i < cells.length := by
  refine linear_safe _ c parts hp _ fun bs hbs => ?_
  have hl : bs.length = (parts.map (·.1)).length := by
    rw [length_of_mem_corners hbs, List.length_map, mapE_length hp]
  have hin := hidx _ (C03.neighbours_in_box sz (parts.map (·.1)) bs hbox hl)
  rw [addBits_eq_map]
  exact ⟨_, _, layout_array_safe idx cells _ hin, fun i hi => List.mem_singleton.1 hi ▸ hin⟩

/-- **linear interpolation over a row-major array**: for coordinates whose integer parts `i_k` satisfy
    `i_k + 1 < extent_k` (i.e. `0 ≤ x_k < extent_k − 1`) the lookup hits none of the modelled UB conditions and
    every one of the `2^N` cells it reads lies inside the storage -/
theorem linear_strided_array_safe (cv : Conv) (w : Nat) (sz : List Nat) (cells : List (List Num)) (c : List Num)
    (parts : List (Nat × Rat)) (hp : mapE truncIdx c = .ok parts)
    (hbox : InBox sz ((parts.map (·.1)).map (· + 1)))
    (hlen : cells.length = prod sz) (hfit : prod sz ≤ 2^w) :
    ∃ v t, eval cv (.linear (.strided w .array)) (.thin (.sized sz (.array cells))) c = .ok (v, t) ∧
      ∀ i ∈ t, i < cells.length :=
  linear_layout_array_safe _ sz cells c parts hp hbox fun p hin => by
    rw [strided_nowrap w sz p hin hfit, hlen]; exact strided_lt sz p hin

theorem hilbert_array_safe (cv : Conv) (sx sy x y k : Nat) (cells : List (List Num))
    (hk : hilN sx sy = 2^k) (hk63 : k ≤ 63) (hx : x < sx) (hy : y < sy) (hsx : sx ≤ 2^k) (hsy : sy ≤ 2^k)
    (hlen : cells.length = 4^k) :
    ∃ v, eval cv (.hilbert .array) (.sized [sx, sy] (.array cells)) (coordOf [x, y]) =
        .ok (v, [hilbertIdx [sx, sy] [x, y]]) ∧ hilbertIdx [sx, sy] [x, y] < cells.length :=
  layout_array_cell _ cells [x, y] rfl (hlen ▸ C01.hilbert_in_storage sx sy x y k hk hk63 hx hy hsx hsy)

/-- BMI2 Morton over an array: same cell as the portable loop, inside the storage -/
theorem mortonT_array_safe (cv : Conv) (sz c : List Nat) (cells : List (List Num)) (k : Nat)
    (hc : InBox sz c) (hN : 0 < sz.length) (hk : ∀ s ∈ sz, s ≤ 2^k) (hk64 : k ≤ 64 / sz.length)
    (hlen : cells.length = 2^(k * sz.length)) :
    ∃ v, eval cv (.mortonT .array) (.sized sz (.array cells)) (coordOf c) = .ok (v, [mortonLoop c]) ∧
         mortonLoop c < cells.length := by
  have hl := InBox_length sz c hc
  have he : mortonPdep c = mortonLoop c :=
    mortonPdep_eq_loop c (by omega) fun j hj =>
      Nat.lt_of_lt_of_le (inBox_getD_lt sz c hc _ hk j hj) (Nat.pow_le_pow_right (by omega) (hl ▸ hk64))
  exact layout_array_cell mortonPdep cells c he (hlen ▸ C01.morton_in_storage sz c k hc hN hk)

/-- the portable Morton loop `idx |= (c[j] & (1UL << i)) << (i * (N − 1) + j)` for `i < 64 / N`, `j < N`: both shift
    amounts stay below the width of `unsigned long` (a shift by ≥ 64 would be undefined behaviour) -/
theorem morton_shifts_defined (N i j : Nat) (hi : i < 64 / N) (hj : j < N) :
    i < 64 ∧ i * (N - 1) + j < 64 := by
  obtain ⟨n, rfl⟩ : ∃ n, N = n + 1 := ⟨N - 1, by omega⟩
  have h1 : (i + 1) * (n + 1) ≤ 64 := (Nat.le_div_iff_mul_le n.succ_pos).1 hi
  rw [Nat.succ_mul_succ] at h1
  rw [Nat.add_sub_cancel]
  omega
end Covfie.C15
