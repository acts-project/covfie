import CovfieModel.Lemmas.IOReject
/-! # C08 — Truncated or mis-tagged input is rejected -/
namespace Covfie.C08
open Covfie.IO

/-- every proper prefix of a valid dump (a writer interrupted at any byte) is rejected -/
theorem load_prefix_rejects (ty : Ty) (d : Dat) (h : WF ty d) (n : Nat) (hn : n < (dump ty d).length) :
    ∀ a r, load ty ((dump ty d).take n) ≠ .ok (a, r) :=
  prefix_rejected (load ty) (PL_load ty) (dump ty d) d
    (by have := load_dump ty d [] h; simpa using this) n hn

/-- a dump in which one global header/footer word, one per-layer header/footer word, or the float-width word
    (to a value other than 4 and 8) has been altered -/
inductive FieldAlt (ty : Ty) (d : Dat) : List Byte → Prop
  | global (bs) : AltW T_FIELD (dumpB ty d) bs → FieldAlt ty d bs
  | layer (bs) : Alt ty d bs → FieldAlt ty d (wrapD T_FIELD bs)

theorem load_altered_rejects (ty : Ty) (d : Dat) (bs : List Byte) (h : WF ty d) (ha : FieldAlt ty d bs)
    (rest : List Byte) : IsErr (load ty (bs ++ rest)) := by
  cases ha with
  | global bs hw => exact Runs.wrap_alt (by decide) (loadB_dumpB ty d h) hw rest
  | layer bs hl => exact Runs.wrap (by decide) (loadB_alt ty d bs hl h) rest

/-- two stacks that are identical down to some layer and carry different tags there -/
inductive Diverge : Ty → Ty → Prop
  | arrayL (M b) : tagOf b ≠ T_ARRAY → (∀ c, b ≠ .thin c) → Diverge (.array M) b
  | constL (sz M b) : tagOf b ≠ T_CONST → (∀ c, b ≠ .thin c) → Diverge (.constant sz M) b
  | identL (b) : tagOf b ≠ T_IDENT → (∀ c, b ≠ .thin c) → Diverge .identity b
  | sizedL (t N a b) : tagOf b ≠ t → (∀ c, b ≠ .thin c) → Diverge (.sized t N a) b
  | clampL (sz N a b) : tagOf b ≠ T_CLAMP → (∀ c, b ≠ .thin c) → Diverge (.clamp sz N a) b
  | backupL (sz N osz M a b) : tagOf b ≠ T_BACKUP → (∀ c, b ≠ .thin c) → Diverge (.backup sz N osz M a) b
  | affineL (sz N a b) : tagOf b ≠ T_AFFINE → (∀ c, b ≠ .thin c) → Diverge (.affine sz N a) b
  | thinL (a b) : Diverge a b → Diverge (.thin a) b
  | thinR (a b) : Diverge a b → Diverge a (.thin b)
  | sized (t N a b) : Diverge a b → Diverge (.sized t N a) (.sized t N b)
  | clamp (sz N a b) : Diverge a b → Diverge (.clamp sz N a) (.clamp sz N b)
  | backup (sz N osz M a b) : Diverge a b → Diverge (.backup sz N osz M a) (.backup sz N osz M b)
  | affine (sz N a b) : Diverge a b → Diverge (.affine sz N a) (.affine sz N b)

theorem loadB_wrong_tag (b : Ty) (t : Nat) (B : List Byte) (hne : tagOf b ≠ t) (hnt : ∀ c, b ≠ .thin c)
    (ht : t < 256^4) : Runs (loadB b) (wrapD t B) none := by
  have key {α} (body : Parser α) : Runs (wrapP (tagOf b) body) (wrapD t B) none :=
    (((Runs.two_ne _ _ (by decide) ht (.inr fun e => hne e.symm)).fail).append _).append _
  cases b with
  | thin c => exact absurd rfl (hnt c)
  | _ => exact key _

theorem loadB_other_tag {a b : Ty} {d : Dat} (h : WF a d) (hna : ∀ c, a ≠ .thin c) (hne : tagOf b ≠ tagOf a)
    (hnt : ∀ c, b ≠ .thin c) : Runs (loadB b) (dumpB a d) none := by
  obtain ⟨e, ht⟩ := dumpB_bracket a d h hna
  rw [e]; exact loadB_wrong_tag b _ _ hne hnt (Nat.lt_of_le_of_lt (Nat.le_add_right _ FOOT) ht)

theorem loadB_incompatible (ty ty' : Ty) (hd : Diverge ty ty') (d : Dat) (h : WF ty d) :
    Runs (loadB ty') (dumpB ty d) none := by
  induction hd generalizing d with
  | arrayL M b hne hnt => exact loadB_other_tag h nofun hne hnt
  | constL sz M b hne hnt => exact loadB_other_tag h nofun hne hnt
  | identL b hne hnt => exact loadB_other_tag h nofun hne hnt
  | sizedL t N a b hne hnt => exact loadB_other_tag h nofun hne hnt
  | clampL sz N a b hne hnt => exact loadB_other_tag h nofun hne hnt
  | backupL sz N osz M a b hne hnt => exact loadB_other_tag h nofun hne hnt
  | affineL sz N a b hne hnt => exact loadB_other_tag h nofun hne hnt
  | thinL a b _ ih => cases d with | thin d => exact ih d h | _ => exact h.elim
  | thinR a b _ ih => exact (ih d h).map _
  | sized t N a b _ ih =>
    cases d with | sized cfg d => exact .wrap h.1 (sizedBody h (ih d h.sized_inner)) | _ => exact h.elim
  | clamp sz N a b _ ih =>
    cases d with | clamp lo hi d => exact .wrap (by decide) (clampBody h (ih d h.clamp_inner)) | _ => exact h.elim
  | backup sz N osz M a b _ ih =>
    cases d with
    | backup lo hi df d => exact .wrap (by decide) (backupBody h (ih d h.backup_inner))
    | _ => exact h.elim
  | affine sz N a b _ ih =>
    cases d with | affine m d => exact .wrap (by decide) (affineBody h (ih d h.affine_inner)) | _ => exact h.elim

/-- loading a dump written by an incompatible layer stack is rejected -/
theorem load_incompatible_rejects (ty ty' : Ty) (hd : Diverge ty ty') (d : Dat) (h : WF ty d) (rest : List Byte) :
    IsErr (load ty' (dump ty d ++ rest)) :=
  Runs.wrap (by decide) (loadB_incompatible ty ty' hd d h) rest

/-! ## The float-width word swapped between 4 and 8: the unrestricted statement is FALSE (format finding) -/
/-- a 4-element `double1` array whose 3rd and 4th values carry the footer words -/
def wsTy : Ty := .array 1
def wsDat : Dat := .array 8 4 [0x3ff0000000000000, 0x4000000000000000,
  (0xCB010000 <<< 32) ||| 0xC04F1E70, (0xCB000000 <<< 32) ||| 0xC04F1E70]
/-- the same bytes with the width word 8 replaced by 4 -/
def wsAltered : List Byte := wrapD T_FIELD (wrapD T_ARRAY (le 4 4 ++ le 8 4 ++ words 8 [0x3ff0000000000000,
  0x4000000000000000, (0xCB010000 <<< 32) ||| 0xC04F1E70, (0xCB000000 <<< 32) ||| 0xC04F1E70]))
example : WF wsTy wsDat := by simp only [wsTy, wsDat, WF, allLt]; decide
/-- witness: the altered stream is ACCEPTED — a 4-element field is returned and the real footers are left unread -/
theorem widthswap_accepts_witness :
    load wsTy wsAltered = .ok (.array 4 4 [0, 0x3ff00000, 0, 0x40000000], ftr T_ARRAY ++ ftr T_FIELD) := by
  -- the first two doubles, cut in halves, are four floats; the last two are the array's and the field's footer:
  -- the altered stream is the dump of a float array, followed by the real footers
  have : wsAltered = dump wsTy (.array 4 4 [0, 0x3ff00000, 0, 0x40000000]) ++ (ftr T_ARRAY ++ ftr T_FIELD) := by decide
  rw [this]
  exact load_dump _ _ _ (by simp only [wsTy, WF, allLt]; decide)

end Covfie.C08
