import CovfieModel.Model.Interp
import CovfieModel.Model.Stack
import CovfieModel.Model.NdMap
import Mathlib.Tactic.Ring
import Mathlib.Tactic.Linarith
import Mathlib.Algebra.BigOperators.Intervals
import Mathlib.Algebra.BigOperators.Ring.Finset
import Mathlib.Algebra.Order.Field.Basic
/-! # C03 — Linear interpolation is the N-linear interpolant (exact arithmetic; rounding: `Props/C03Round.lean`) -/
namespace Covfie.C03

section ring
variable {α : Type} [CommRing α]

theorem foldl_range_eq_sum (K : Nat) (g : Nat → α) :
    (List.range K).foldl (fun acc n => acc + g n) 0 = ∑ n ∈ Finset.range K, g n := by
  induction K with
  | zero => simp
  | succ K ih => rw [List.range_succ, List.foldl_append, ih, Finset.sum_range_succ]; simp

theorem sum_range_double (K : Nat) (g : Nat → α) :
    ∑ n ∈ Finset.range (2 * K), g n = ∑ m ∈ Finset.range K, (g (2 * m) + g (2 * m + 1)) := by
  induction K with
  | zero => simp
  | succ K ih =>
    rw [Nat.mul_succ, Finset.sum_range_succ, Finset.sum_range_succ, ih, Finset.sum_range_succ, add_assoc]

/-- the interpolant with an arbitrary pair of weights per axis: `nlin` has `(1 − a, a)`, `nlinAbs` has `(|1 − a|, |a|)` -/
def nlinP : List (α × α) → (List Bool → α) → α
  | [], v => v []
  | p :: ps, v => p.1 * nlinP ps (fun bs => v (false :: bs)) + p.2 * nlinP ps (fun bs => v (true :: bs))
def weightP : List (α × α) → Nat → α
  | [], _ => 1
  | p :: ps, n => (if n % 2 == 1 then p.2 else p.1) * weightP ps (n / 2)

theorem two_mul_bit (m : Nat) : 2 * m % 2 = 0 ∧ 2 * m / 2 = m ∧ (2 * m + 1) % 2 = 1 ∧ (2 * m + 1) / 2 = m :=
  ⟨Nat.mul_mod_right 2 m, Nat.mul_div_cancel_left m Nat.two_pos, Nat.mul_add_mod 2 m 1, Nat.mul_add_div Nat.two_pos m 1⟩

theorem weightP_two_mul (p : α × α) (ps : List (α × α)) (m : Nat) :
    weightP (p :: ps) (2 * m) = p.1 * weightP ps m ∧ weightP (p :: ps) (2 * m + 1) = p.2 * weightP ps m := by
  obtain ⟨h1, h2, h3, h4⟩ := two_mul_bit m
  rw [weightP, weightP, h1, h2, h3, h4]
  exact ⟨rfl, rfl⟩

theorem bitsOf_two_mul (N m : Nat) :
    bitsOf (N + 1) (2 * m) = false :: bitsOf N m ∧ bitsOf (N + 1) (2 * m + 1) = true :: bitsOf N m := by
  obtain ⟨h1, h2, h3, h4⟩ := two_mul_bit m
  rw [bitsOf, bitsOf, h1, h2, h3, h4]
  exact ⟨rfl, rfl⟩

/-- splitting the corners by their lowest bit is the recursion of the interpolant -/
theorem nlinP_eq_sum (ps : List (α × α)) (v : List Bool → α) :
    nlinP ps v = ∑ n ∈ Finset.range (2 ^ ps.length), weightP ps n * v (bitsOf ps.length n) := by
  induction ps generalizing v with
  | nil => simp [weightP, bitsOf, nlinP]
  | cons p ps ih =>
    rw [List.length_cons, pow_succ', sum_range_double, Finset.sum_add_distrib]
    simp only [nlinP, ih, Finset.mul_sum, (weightP_two_mul _ _ _).1, (weightP_two_mul _ _ _).2, (bitsOf_two_mul _ _).1,
      (bitsOf_two_mul _ _).2, mul_assoc]

theorem nlin_eq_nlinP (as : List α) (v : List Bool → α) : nlin as v = nlinP (as.map fun a => (1 - a, a)) v := by
  induction as generalizing v with
  | nil => rfl
  | cons a as ih => simp only [nlin, List.map_cons, nlinP, ih]

theorem weight_eq_weightP (as : List α) (n : Nat) : weight as n = weightP (as.map fun a => (1 - a, a)) n := by
  induction as generalizing n with
  | nil => rfl
  | cons a as ih => simp only [weight, List.map_cons, weightP, ih]

/-- the interpolant is the weighted sum of the 2^N surrounding values, the weight of neighbour `n` being the product over
    the axes of `a_k` (bit k of n set) or `1 − a_k` (bit k clear) -/
theorem nlin_eq_weighted_sum (as : List α) (v : List Bool → α) :
    nlin as v = ∑ n ∈ Finset.range (2 ^ as.length), weight as n * v (bitsOf as.length n) := by
  rw [nlin_eq_nlinP, nlinP_eq_sum, List.length_map]
  simp only [weight_eq_weightP]

/-- the generic 2^N branch computes the N-linear interpolant of the 2^N surrounding lattice values -/
theorem generic_eq_nlin (as : List α) (v : List Bool → α) : linGeneric as v = nlin as v := by
  rw [linGeneric, foldl_range_eq_sum, nlin_eq_weighted_sum]

/-- the dimension-specialised branches compute the same interpolant -/
theorem branch1_eq_nlin (a : α) (v : List Bool → α) : lin1 a v = nlin [a] v := rfl
theorem branch2_eq_nlin (a b : α) (v : List Bool → α) : lin2 a b v = nlin [a, b] v := by simp only [lin2, nlin]; ring
theorem branch3_eq_nlin (a b c : α) (v : List Bool → α) : lin3 a b c v = nlin [a, b, c] v := by simp only [lin3, nlin]; ring

/-- at a corner of the cell (fractional parts 0 or 1) the corresponding corner value is returned -/
theorem nlin_at_corner (bs : List Bool) (v : List Bool → α) :
    nlin (bs.map fun b => if b then (1 : α) else 0) v = v bs := by
  induction bs generalizing v with
  | nil => rfl
  | cons b bs ih => cases b <;> simp [nlin, ih]

/-- at a lattice point (all fractional parts 0) the stored value is returned -/
theorem nlin_at_lattice (as : List α) (v : List Bool → α) (h : ∀ a ∈ as, a = 0) :
    nlin as v = v (as.map fun _ => false) := by
  rw [← nlin_at_corner (as.map fun _ => false) v, List.map_map]
  exact congrArg (nlin · v) ((List.map_id as).symm.trans (List.map_congr_left h))

theorem nlin_const (as : List α) (c : α) : nlin as (fun _ => c) = c := by
  induction as with
  | nil => rfl
  | cons a as ih => simp only [nlin, ih]; ring

theorem weight_sum (as : List α) : ∑ n ∈ Finset.range (2 ^ as.length), weight as n = 1 := by
  have h := nlin_eq_weighted_sum as (fun _ => (1 : α))
  rw [nlin_const] at h
  simpa using h.symm

end ring

theorem convex_mem {a x y lo hi : ℚ} (a0 : 0 ≤ a) (a1 : a ≤ 1) (hx : lo ≤ x ∧ x ≤ hi) (hy : lo ≤ y ∧ y ≤ hi) :
    lo ≤ (1 - a) * x + a * y ∧ (1 - a) * x + a * y ≤ hi := by
  have b0 := sub_nonneg.mpr a1
  constructor
  · calc lo = (1 - a) * lo + a * lo := by ring
      _ ≤ _ := add_le_add (mul_le_mul_of_nonneg_left hx.1 b0) (mul_le_mul_of_nonneg_left hy.1 a0)
  · calc _ ≤ (1 - a) * hi + a * hi := add_le_add (mul_le_mul_of_nonneg_left hx.2 b0) (mul_le_mul_of_nonneg_left hy.2 a0)
      _ = hi := by ring

/-- the interpolant never leaves the range spanned by the surrounding lattice values -/
theorem nlin_hull (as : List ℚ) (v : List Bool → ℚ) (lo hi : ℚ)
    (ha : ∀ a ∈ as, 0 ≤ a ∧ a ≤ 1) (hv : ∀ bs, lo ≤ v bs ∧ v bs ≤ hi) :
    lo ≤ nlin as v ∧ nlin as v ≤ hi := by
  induction as generalizing v with
  | nil => exact hv []
  | cons a as ih =>
    have ha' := fun x hx => ha x (List.mem_cons_of_mem _ hx)
    exact convex_mem (ha a List.mem_cons_self).1 (ha a List.mem_cons_self).2 (ih _ ha' fun _ => hv _) (ih _ ha' fun _ => hv _)

theorem weight_nonneg (as : List ℚ) (h : ∀ a ∈ as, 0 ≤ a ∧ a ≤ 1) (n : Nat) : 0 ≤ weight as n := by
  induction as generalizing n with
  | nil => simp [weight]
  | cons a as ih =>
    have ⟨a0, a1⟩ := h a List.mem_cons_self
    have hr := ih (fun x hx => h x (List.mem_cons_of_mem _ hx)) (n / 2)
    rw [weight]
    exact mul_nonneg (by split_ifs; exacts [a0, sub_nonneg.mpr a1]) hr

example : nlin [(1/4 : ℚ), 1/2] (fun bs => match bs with
    | [false,false] => 12 | [false,true] => 19 | [true,false] => 22 | _ => 29) = 18 := by simp only [nlin]; norm_num

/-- for `0 ≤ x_k < extent_k − 1` (integer part `i_k` with `i_k + 1 < extent_k`) all `2^N` neighbour coordinates
    `i + bits` lie inside the grid — so, with C01, the interpolator reads only inside the storage -/
theorem neighbours_in_box (sz is : List Nat) (bs : List Bool) (h : InBox sz (is.map (· + 1)))
    (hl : bs.length = is.length) :
    InBox sz (List.zipWith (fun i b => i + (if b then 1 else 0)) is bs) := by
  induction is generalizing sz bs with
  | nil => exact h
  | cons i is ih =>
    obtain _ | ⟨b, bs⟩ := bs
    · cases hl
    obtain _ | ⟨s, ss⟩ := sz
    · exact False.elim h
    exact ⟨Nat.lt_of_le_of_lt (Nat.add_le_add_left (by cases b <;> decide) i) h.1, ih ss bs h.2 (Nat.succ.inj hl)⟩

theorem corners_length (N : Nat) : (corners N).length = 2^N := by
  induction N with
  | zero => rfl
  | succ n ih => simp [corners, List.length_flatMap, ih, Nat.pow_succ]

end Covfie.C03
