import CovfieModel.Lemmas.IO
/-! # C07 — Files are portable across interpolation method (footprint-free layers).
    (The nested grammar: `Props/C07Grammar.lean`; precision conversion: `Props/C07Narrow.lean`, `C07Widen.lean` and the files
    built on them; loading a file of the other float width: `Props/C07Cross.lean`.) -/
namespace Covfie.C07
open Covfie.IO

/-- remove the footprint-free layers (interpolators, shuffle, cast, dereference) -/
def strip : Ty → Ty
  | .thin b => strip b
  | .sized t N b => .sized t N (strip b)
  | .clamp sz N b => .clamp sz N (strip b)
  | .backup sz N osz M b => .backup sz N osz M (strip b)
  | .affine sz N b => .affine sz N (strip b)
  | t => t
def stripD : Dat → Dat
  | .thin d => stripD d
  | .sized cfg d => .sized cfg (stripD d)
  | .clamp lo hi d => .clamp lo hi (stripD d)
  | .backup lo hi df d => .backup lo hi df (stripD d)
  | .affine m d => .affine m (stripD d)
  | d => d
/-- re-insert the footprint-free layers of `ty` into stripped data -/
def rethin : Ty → Dat → Dat
  | .thin b, d => .thin (rethin b d)
  | .sized _ _ b, .sized cfg d => .sized cfg (rethin b d)
  | .clamp _ _ b, .clamp lo hi d => .clamp lo hi (rethin b d)
  | .backup _ _ _ _ b, .backup lo hi df d => .backup lo hi df (rethin b d)
  | .affine _ _ b, .affine m d => .affine m (rethin b d)
  | _, d => d

/-- interpolators and the other footprint-free layers write nothing: the bytes are those of the stripped stack -/
theorem dumpB_strip : ∀ ty d, WF ty d → dumpB ty d = dumpB (strip ty) (stripD d) :=
  WF.ind
    (array := fun _ _ _ _ _ => rfl)
    (constant := fun _ _ _ _ => rfl)
    (identity := rfl)
    (sized := fun t _ _ cfg _ _ ih => congrArg (fun x => wrapD t (words 8 cfg ++ x)) ih)
    (clamp := fun sz _ _ lo hi _ _ ih => congrArg (fun x => wrapD T_CLAMP (words sz lo ++ words sz hi ++ x)) ih)
    (backup := fun sz _ osz _ _ lo hi df _ _ ih =>
      congrArg (fun x => wrapD T_BACKUP (words sz lo ++ words sz hi ++ words osz df ++ x)) ih)
    (affine := fun sz _ _ m _ _ ih => congrArg (fun x => wrapD T_AFFINE (words sz m ++ x)) ih)
    (thin := fun _ _ _ ih => ih)

theorem WF_strip : ∀ ty d, WF ty d → WF (strip ty) (stripD d) :=
  WF.ind
    (array := fun _ _ _ _ h => h)
    (constant := fun _ _ _ h => h)
    (identity := trivial)
    (sized := fun _ _ _ _ _ h ih => h.sized_congr ih)
    (clamp := fun _ _ _ _ _ _ h ih => h.clamp_congr ih)
    (backup := fun _ _ _ _ _ _ _ _ _ h ih => h.backup_congr ih)
    (affine := fun _ _ _ _ _ h ih => h.affine_congr ih)
    (thin := fun _ _ _ ih => ih)

theorem WF_rethin (ty : Ty) : ∀ x, WF (strip ty) x → WF ty (rethin ty x) ∧ stripD (rethin ty x) = x := by
  induction ty with
  | thin b ih => exact ih
  | sized t N b ih =>
    intro x h
    cases x with
    | sized cfg d => exact ⟨h.sized_congr (ih d h.sized_inner).1, congrArg (Dat.sized cfg) (ih d h.sized_inner).2⟩
    | _ => exact h.elim
  | clamp sz N b ih =>
    intro x h
    cases x with
    | clamp lo hi d => exact ⟨h.clamp_congr (ih d h.clamp_inner).1, congrArg (Dat.clamp lo hi) (ih d h.clamp_inner).2⟩
    | _ => exact h.elim
  | backup sz N osz M b ih =>
    intro x h
    cases x with
    | backup lo hi df d =>
      exact ⟨h.backup_congr (ih d h.backup_inner).1, congrArg (Dat.backup lo hi df) (ih d h.backup_inner).2⟩
    | _ => exact h.elim
  | affine sz N b ih =>
    intro x h
    cases x with
    | affine m d => exact ⟨h.affine_congr (ih d h.affine_inner).1, congrArg (Dat.affine m) (ih d h.affine_inner).2⟩
    | _ => exact h.elim
  | array M => intro x h; cases x with | array wd n cells => exact ⟨h, rfl⟩ | _ => exact h.elim
  | constant sz M => intro x h; cases x with | constant v => exact ⟨h, rfl⟩ | _ => exact h.elim
  | identity => intro x h; cases x with | identity => exact ⟨h, rfl⟩ | _ => exact h.elim

/-- The field that a file written from `ty₁` yields when loaded into `ty₂` (`load_cross_interp` below) **re-dumps to the very
    bytes it was loaded from**: nothing of the file's origin (which interpolator wrote it) survives in the loaded field, and
    nothing is lost (harness: `crossredump`) -/
theorem cross_interp_redump (ty₁ ty₂ : Ty) (d : Dat) (h : WF ty₁ d) (hs : strip ty₁ = strip ty₂) :
    dump ty₂ (rethin ty₂ (stripD d)) = dump ty₁ d ∧ WF ty₂ (rethin ty₂ (stripD d)) := by
  have hw := WF_strip ty₁ d h
  rw [hs] at hw
  obtain ⟨hw2, hsd⟩ := WF_rethin ty₂ (stripD d) hw
  refine ⟨?_, hw2⟩
  unfold dump
  rw [dumpB_strip ty₁ d h, dumpB_strip ty₂ _ hw2, hsd, hs]

/-- **Portability across footprint-free layers**: a file written from `ty₁` loads into any `ty₂` that differs
    only in interpolators / shuffle / cast / dereference layers; every configuration and every stored word is
    unchanged (the data is that of the stripped stack with `ty₂`'s footprint-free layers re-inserted). -/
theorem load_cross_interp (ty₁ ty₂ : Ty) (d : Dat) (rest : List Byte) (h : WF ty₁ d)
    (hs : strip ty₁ = strip ty₂) :
    load ty₂ (dump ty₁ d ++ rest) = .ok (rethin ty₂ (stripD d), rest) := by
  obtain ⟨e, hw2⟩ := cross_interp_redump ty₁ ty₂ d h hs
  rw [← e]
  exact load_dump ty₂ _ rest hw2

/-- in particular nearest-neighbour ↔ linear: same bytes -/
theorem dump_interp_transparent (ty : Ty) (d : Dat) : dump (.thin ty) (.thin d) = dump ty d := rfl

end Covfie.C07
