import CovfieModel.Props.C09Round
/-! # C09 — a product of two affine transforms, applied to a vector, in floating point

`(P * Q) * v` as the library computes it (`affine::operator*(affine)` embeds both factors, multiplies with the loop of
`matrix::operator*`, and `affine::operator*(vector)` applies the result) is, under the standard model, within
`((1+u)^(2(N+1)) − 1) · |P|(|Q||v|)` of the exact `P (Q v)` (`affChain_round`) — the bound `γ_c |A1||A2||v|` with
`c = 2 (N+1)` that the correspondence judge uses for chains of two factors. -/
namespace Covfie.C09
open Covfie Covfie.C03

def flE (rnd : ℚ → ℚ) (p : Ex × Ex) : Fl rnd × Fl rnd := (⟨p.1.fl rnd⟩, ⟨p.2.fl rnd⟩)
def exactE (p : Ex × Ex) : ℚ × ℚ := (p.1.exact, p.2.exact)
def magE (p : Ex × Ex) : ℚ × ℚ := (p.1.mag, p.2.mag)

/-- a dot product whose operands are themselves rounded expressions of depth ≤ C -/
theorem dotE_round (u : ℚ) (rnd : ℚ → ℚ) (h : StdModel u rnd) (hid : ∀ x, rnd (rnd x) = rnd x) (C : ℕ) (l : List (Ex × Ex))
    (hC : ∀ p ∈ l, p.1.cnt + p.2.cnt ≤ C) :
    |(dotF (l.map (flE rnd))).val - dotF (l.map exactE)| ≤ g u (C + l.length) * dotF (l.map magE) := by
  have hb := Approx.sum h hid (fun p : Ex × Ex => ⟨p.1.fl rnd⟩) (fun p => ⟨p.2.fl rnd⟩) _ _ l fun p hp =>
    (Approx.mul h (eval_bound u rnd h p.1) (eval_bound u rnd h p.2)).mono h.1 (Nat.succ_le_succ (hC p hp))
  simp only [dotF, List.foldl_map]
  exact hb.1

def toFl (rnd : ℚ → ℚ) {n m : Nat} (A : Fin n → Fin m → ℚ) : Fin n → Fin m → Fl rnd := fun i k => ⟨A i k⟩
def absM {n m : Nat} (A : Fin n → Fin m → ℚ) : Fin n → Fin m → ℚ := fun i k => |A i k|

section rules
variable {u : ℚ} {rnd : ℚ → ℚ} {a b : ℕ} {N : Nat} {X Y : Fin N → Fin (N+1) → Fl rnd} {P Q Pm Qm : Fin N → Fin (N+1) → ℚ}

theorem embed_approx (hu : 0 ≤ u) (hX : ∀ i k, Approx u rnd (X i k) (P i k) (Pm i k) a) (i k : Fin (N+1)) :
    Approx u rnd (embed X i k) (embed P i k) (embed Pm i k) a := by
  unfold embed
  split
  · exact hX _ _
  · split
    · exact Approx.one.mono hu (Nat.zero_le a)
    · exact Approx.zero.mono hu (Nat.zero_le a)

/-- `affine::operator*(affine)`: every entry of the product is a dot product of `N + 1` terms -/
theorem affMul_approx (h : StdModel u rnd) (hid : ∀ x, rnd (rnd x) = rnd x)
    (hX : ∀ i k, Approx u rnd (X i k) (P i k) (Pm i k) a) (hY : ∀ i k, Approx u rnd (Y i k) (Q i k) (Qm i k) b)
    (i : Fin N) (k : Fin (N+1)) :
    Approx u rnd (affMul X Y i k) (affMul P Q i k) (affMul Pm Qm i k) (a + b + (N + 1)) :=
  sumFin_approx h hid (embed_approx h.1 hX _) (fun j => embed_approx h.1 hY j k)

theorem toFl_approx (P : Fin N → Fin (N+1) → ℚ) (i : Fin N) (k : Fin (N+1)) :
    Approx u rnd (toFl rnd P i k) (P i k) (absM P i k) 0 := Approx.lit _
end rules

/-- **`(P * Q) * v` in floating point**: within `((1+u)^(2(N+1)) − 1) · |P|(|Q||v|)` of the exact `P (Q v)` -/
theorem affChain_round (u : ℚ) (rnd : ℚ → ℚ) (h : StdModel u rnd) (hid : ∀ x, rnd (rnd x) = rnd x) {N : Nat}
    (P Q : Fin N → Fin (N+1) → ℚ) (v : Fin N → ℚ) (i : Fin N) :
    |(affApply (affMul (toFl rnd P) (toFl rnd Q)) (fun k => (⟨v k⟩ : Fl rnd)) i).val - affApply P (affApply Q v) i| ≤
      g u (2 * (N + 1)) * affApply (absM P) (affApply (absM Q) (fun k => |v k|)) i := by
  have := (affApply_approx h hid (affMul_approx h hid (toFl_approx P) (toFl_approx Q)) (fun k => Approx.lit (v k)) i).mono
    h.1 (k := 2 * (N + 1)) (by omega)
  rw [affMul_apply, affMul_apply] at this
  exact this.1

/-- **`P * (Q * v)` in floating point** (apply the right factor, then the left): the same bound -/
theorem affSeq_round (u : ℚ) (rnd : ℚ → ℚ) (h : StdModel u rnd) (hid : ∀ x, rnd (rnd x) = rnd x) {N : Nat}
    (P Q : Fin N → Fin (N+1) → ℚ) (v : Fin N → ℚ) (i : Fin N) :
    |(affApply (toFl rnd P) (affApply (toFl rnd Q) (fun k => (⟨v k⟩ : Fl rnd))) i).val - affApply P (affApply Q v) i| ≤
      g u (2 * (N + 1)) * affApply (absM P) (affApply (absM Q) (fun k => |v k|)) i := by
  exact ((affApply_approx h hid (toFl_approx P) (affApply_approx h hid (toFl_approx Q) fun k => Approx.lit (v k)) i).mono
    h.1 (by omega)).1

/-- **"the product applied to a vector equals applying the right factor and then the left", in floating point**: the two
    ways of computing differ by at most twice the bound -/
theorem affChain_vs_seq (u : ℚ) (rnd : ℚ → ℚ) (h : StdModel u rnd) (hid : ∀ x, rnd (rnd x) = rnd x) {N : Nat}
    (P Q : Fin N → Fin (N+1) → ℚ) (v : Fin N → ℚ) (i : Fin N) :
    |(affApply (affMul (toFl rnd P) (toFl rnd Q)) (fun k => (⟨v k⟩ : Fl rnd)) i).val -
      (affApply (toFl rnd P) (affApply (toFl rnd Q) (fun k => (⟨v k⟩ : Fl rnd))) i).val| ≤
      2 * (g u (2 * (N + 1)) * affApply (absM P) (affApply (absM Q) (fun k => |v k|)) i) :=
  (abs_sub_le _ _ _).trans ((add_le_add (affChain_round u rnd h hid P Q v i)
    ((abs_sub_comm _ _).trans_le (affSeq_round u rnd h hid P Q v i))).trans_eq (two_mul _).symm)

end Covfie.C09
