import CovfieModel.Props.C12Indep
/-! C12 (views): a view is a snapshot `(address, size)` of the owning record it was taken from — the raw pointer of
`array::non_owning_data_t` — and nothing else of the field *object*.  In every reachable state of the ownership machine
a view whose buffer is still allocated reads the value of the one field that owns that buffer now; moving the owning
field elsewhere leaves the view valid and reading the same cells (the harnesses relocate the field object after taking
the view); an operation that does not name the owner of the view's buffer cannot change what the view reads. -/
namespace Covfie.Heap

structure View where
  addr : Addr
  size : Nat
  deriving DecidableEq

def viewOf (s : CState) (i : Nat) : Option View :=
  match s.slots i with
  | some ⟨n, some a⟩ => some ⟨a, n⟩
  | _ => none

/-- what the view reads; `none` = dangling -/
def View.read (s : CState) (v : View) : Option (List Nat) := s.heap v.addr

def Op.names : Op → Nat → Bool
  | .ctor i _, k => k == i
  | .dtor i, k => k == i
  | .copyCtor d s, k => k == d || k == s
  | .moveCtor d s, k => k == d || k == s
  | .copyAssign d s, k => k == d || k == s
  | .moveAssign d s, k => k == d || k == s
  | .write i _ _, k => k == i
  | .convert d s, k => k == d || k == s
  | .dumpLoad d s, k => k == d || k == s

theorem viewOf_some (s : CState) (i : Nat) (v : View) (h : viewOf s i = some v) : s.slots i = some ⟨v.size, some v.addr⟩ := by
  unfold viewOf at h
  split at h
  · rename_i n a hs
    cases h; exact hs
  · cases h

theorem view_reads_owner (s : CState) (h : HInv s) (v : View) (buf : List Nat) (hr : v.read s = some buf) :
    ∃ i n, s.slots i = some ⟨n, some v.addr⟩ ∧ abs s i = some (.live buf) ∧
      ∀ j nj, s.slots j = some ⟨nj, some v.addr⟩ → j = i := by
  have hne : s.heap v.addr ≠ none := by unfold View.read at hr; simp [hr]
  obtain ⟨i, n, hs⟩ := h.owned v.addr hne
  refine ⟨i, n, hs, ?_, ?_⟩
  · unfold View.read at hr
    simp [abs, hs, hr]
  · intro j nj hj
    exact h.noalias j i nj n v.addr hj hs

theorem view_valid (s : CState) (h : HInv s) (i : Nat) (v : View) (hv : viewOf s i = some v) :
    ∃ buf, v.read s = some buf ∧ buf.length = v.size := by
  have hs := viewOf_some s i v hv
  exact h.live i v.size v.addr hs

theorem view_survives_moveCtor (s : CState) (i j : Nat) (v : View) (hv : viewOf s i = some v) (hj : s.slots j = none) :
    v.read (cstep s (.moveCtor j i)) = v.read s ∧ viewOf (cstep s (.moveCtor j i)) j = some v := by
  have hs := viewOf_some s i v hv
  simp [cstep, hj, hs, View.read, viewOf]

theorem view_survives_moveAssign (s : CState) (h : HInv s) (i j : Nat) (v : View) (hv : viewOf s i = some v)
    (d : Own) (hj : s.slots j = some d) (hne : j ≠ i) :
    v.read (cstep s (.moveAssign j i)) = v.read s ∧ viewOf (cstep s (.moveAssign j i)) j = some v := by
  have hs := viewOf_some s i v hv
  constructor
  · simp only [cstep, hj, hs, hne, if_false, View.read]
    exact free_other s d.ptr v.addr (ptr_ne s h (Ne.symm hne) hj hs)
  · simp [cstep, hj, hs, hne, viewOf]

theorem not_names {op : Op} {k : Nat} (h : op.names k = false) : k ∉ C12.Op.slots op := by
  have h1 : ∀ {i}, (k == i) = false → k ∉ [i] := by simp
  have h2 : ∀ {d r}, (k == d || k == r) = false → k ∉ [d, r] := by simp
  cases op with
  | ctor | dtor | write => exact h1 h
  | _ => exact h2 h

theorem slots_frame (s : CState) (op : Op) (i : Nat) (hn : i ∉ C12.Op.slots op) : (cstep s op).slots i = s.slots i := by
  have hd : ∀ {d : Nat} {l : List Nat}, i ∉ d :: l → i ≠ d := fun h e => h (e ▸ .head _)
  have hr : ∀ {d r : Nat} {l : List Nat}, i ∉ d :: r :: l → i ≠ r := fun h e => h (e ▸ .tail _ (.head _))
  cases op with
  | ctor k n =>
    dsimp only [cstep]; split
    · rfl
    · exact upd_other _ _ _ _ (hd hn)
  | dtor k =>
    dsimp only [cstep]; split
    · rfl
    · exact upd_other _ _ _ _ (hd hn)
  | copyCtor d r =>
    dsimp only [cstep]; split
    · exact upd_other _ _ _ _ (hd hn)
    · rfl
  | moveCtor d r =>
    dsimp only [cstep]; split
    · exact (upd_other _ _ _ _ (hd hn)).trans (upd_other _ _ _ _ (hr hn))
    · rfl
  | copyAssign d r =>
    dsimp only [cstep]; split
    · split
      · rfl
      · exact upd_other _ _ _ _ (hd hn)
    · rfl
  | moveAssign d r =>
    dsimp only [cstep]; split
    · split
      · rfl
      · exact (upd_other _ _ _ _ (hd hn)).trans (upd_other _ _ _ _ (hr hn))
    · rfl
  | write k c x =>
    dsimp only [cstep]; split
    · split
      · split <;> rfl
      · rfl
    · rfl
  | convert d r =>
    dsimp only [cstep]; split
    · split
      · exact upd_other _ _ _ _ (hd hn)
      · rfl
    · rfl
  | dumpLoad d r =>
    dsimp only [cstep]; split
    · split
      · split <;> exact upd_other _ _ _ _ (hd hn)
      · rfl
    · rfl

/-- The owner keeps its record (`slots_frame`) and, in the value model, its value (`astep_frame`); the view reads the
    cells of that value before and after. -/
theorem view_frame (s : CState) (h : HInv s) (i : Nat) (v : View) (hv : viewOf s i = some v) (op : Op)
    (hn : op.names i = false) : v.read (cstep s op) = v.read s := by
  have hs := viewOf_some s i v hv
  have hs' := (slots_frame s op i (not_names hn)).trans hs
  have e : abs (cstep s op) i = abs s i := by rw [refine_step s h op, C12.astep_frame _ op i (not_names hn)]
  obtain ⟨buf, hb, _⟩ := h.live i _ _ hs
  obtain ⟨buf', hb', _⟩ := (inv_step s h op).live i _ _ hs'
  rw [abs_eq, abs_eq, hs, hs'] at e
  simp only [Option.map_some, absOwn, hb, hb', Option.getD_some, Option.some.injEq, AVal.live.injEq] at e
  exact hb'.trans (e ▸ hb.symm)

theorem view_frame_reachable (ops : List Op) (i : Nat) (v : View) (hv : viewOf (ops.foldl cstep cinit) i = some v)
    (op : Op) (hn : op.names i = false) :
    v.read (cstep (ops.foldl cstep cinit) op) = v.read (ops.foldl cstep cinit) ∧
      ∃ buf, v.read (ops.foldl cstep cinit) = some buf ∧ buf.length = v.size :=
  ⟨view_frame _ (C12.history_inv ops) i v hv op hn, view_valid _ (C12.history_inv ops) i v hv⟩

/-- non-vacuity: a field, its view, a relocation; the view still reads the written cell -/
example :
    let s := [Op.ctor 0 3, .write 0 1 7].foldl cstep cinit
    (viewOf s 0).map (fun v => v.read (cstep s (.moveCtor 5 0))) = some (some [0, 7, 0]) := by decide

end Covfie.Heap
