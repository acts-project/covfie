import CovfieModel.Model.RImpRef
import CovfieModel.Lemmas.RImp
import CovfieModel.Model.Algebra
/-! # The algebra kernels, as translated from the source text, compute the model's sums

`Covfie.RImp.Ref.*` are what `harness/cxx2rimp.py` produces from `algebra/matrix.hpp` / `algebra/affine.hpp`. -/
namespace Covfie.RImp
open Covfie.Imp (iterN)

variable {α : Type} [Add α] [Mul α] [Sub α] [OfNat α 0] [OfNat α 1]

/-- `t = t0; for k < m: t += A(i,k) * B(k,j)` -/
def dotN (A B : List Nat → α) (i j m : Nat) (t0 : α) : α :=
  (List.range m).foldl (fun acc k => acc + A [i, k] * B [k, j]) t0

-- `Ref.matmul`: integers 0 `N`, 1 `M`, 2 `P`, 3 `i`, 4 `j`, 5 `k`; scalar 0 `t`; arrays 0 `this`, 1 `o`, 2 `r`
def mmK : Stmt := .rassign 0 (.add (.rvar 0) (.mul (.get 0 [(.var 3), (.var 5)]) (.get 1 [(.var 5), (.var 4)])))
def mmJ : Stmt :=
  .seq (.rassign 0 .zero) (.seq (.iassign 5 (.lit 0)) (.seq (forLt 5 (.var 1) mmK) (.rset 2 [(.var 3), (.var 4)] (.rvar 0))))
def mmI : Stmt := .seq (.iassign 4 (.lit 0)) (forLt 4 (.var 2) mmJ)
theorem mm_shape : Ref.matmul = .seq (.iassign 3 (.lit 0)) (forLt 3 (.var 0) mmI) := rfl

theorem mmJ_exec (ir : List Nat) (rr : List α) (ar : List (List Nat → α)) (F N M P i j k0 : Nat) (A B r : List Nat → α) (t0 : α)
    (hM : M < 2^64) (hF : M < F) :
    exec F mmJ ⟨N :: M :: P :: i :: j :: k0 :: ir, t0 :: rr, A :: B :: r :: ar⟩
      = some ⟨N :: M :: P :: i :: j :: M :: ir, dotN A B i j M 0 :: rr, A :: B :: upd r [i, j] (dotN A B i j M 0) :: ar⟩ := by
  obtain ⟨_, h⟩ := exec_for_zero F 5 M (.var 1) mmK
    (e := fun k (t : α) (_ : Unit) => ⟨N :: M :: P :: i :: j :: k :: ir, t :: rr, A :: B :: r :: ar⟩)
    (step := fun k t => t + A [i, k] * B [k, j]) hM (fun _ _ _ => rfl) (fun _ _ _ _ => ⟨(), rfl⟩) hF 0 ()
  simp -implicitDefEqProofs only [imp_exec, mmJ]
  rw [h]
  simp -implicitDefEqProofs only [imp_exec, dotN]

theorem mmI_exec (ir : List Nat) (rr : List α) (ar : List (List Nat → α)) (F N M P i j0 k0 : Nat) (A B r : List Nat → α) (t0 : α)
    (hM : M < 2^64) (hP : P < 2^64) (hF : M < F ∧ P < F) :
    ∃ t k, exec F mmI ⟨N :: M :: P :: i :: j0 :: k0 :: ir, t0 :: rr, A :: B :: r :: ar⟩
      = some ⟨N :: M :: P :: i :: P :: k :: ir, t :: rr, A :: B :: fill (fun j => [i, j]) (fun j => dotN A B i j M 0) P r :: ar⟩ := by
  obtain ⟨⟨t, k⟩, h⟩ := exec_for_zero F 4 P (.var 2) mmJ
    (e := fun j (r : List Nat → α) (x : α × Nat) => ⟨N :: M :: P :: i :: j :: x.2 :: ir, x.1 :: rr, A :: B :: r :: ar⟩)
    (step := fun j r => upd r [i, j] (dotN A B i j M 0)) hP (fun _ _ _ => rfl)
    (fun j r x _ => ⟨(_, M), mmJ_exec ir rr ar F N M P i j x.2 A B r x.1 hM hF.1⟩) hF.2 r (t0, k0)
  exact ⟨t, k, by simp -implicitDefEqProofs only [imp_exec, mmI]; exact h⟩

/-- the whole state after `matrix::operator*` (for composing it with what follows in an enclosing kernel) -/
theorem matmul_exec (ir : List Nat) (rr : List α) (ar : List (List Nat → α)) (F N M P : Nat) (A B r0 : List Nat → α)
    (hN : N < 2^64) (hM : M < 2^64) (hP : P < 2^64) (hF : N < F ∧ M < F ∧ P < F) (i0 j0 k0 : Nat) (t0 : α) :
    ∃ j k t, exec F Ref.matmul ⟨N :: M :: P :: i0 :: j0 :: k0 :: ir, t0 :: rr, A :: B :: r0 :: ar⟩
      = some ⟨N :: M :: P :: N :: j :: k :: ir, t :: rr, A :: B :: fill2 (fun i j => dotN A B i j M 0) N P r0 :: ar⟩ := by
  obtain ⟨⟨j, k, t⟩, h⟩ := exec_for_zero F 3 N (.var 0) mmI
    (e := fun i (r : List Nat → α) (x : Nat × Nat × α) => ⟨N :: M :: P :: i :: x.1 :: x.2.1 :: ir, x.2.2 :: rr, A :: B :: r :: ar⟩)
    (step := fun i r => fill (fun j => [i, j]) (fun j => dotN A B i j M 0) P r) hN (fun _ _ _ => rfl)
    (fun i r x _ => by
      obtain ⟨t', k', h⟩ := mmI_exec ir rr ar F N M P i x.1 x.2.1 A B r x.2.2 hM hP hF.2
      exact ⟨(P, k', t'), h⟩)
    hF.1 r0 (j0, k0, t0)
  exact ⟨j, k, t, by rw [mm_shape]; simp -implicitDefEqProofs only [imp_exec]; exact h⟩

/-- `matrix<N,M>::operator*(matrix<M,P>)` as written in `algebra/matrix.hpp`: after the call, entry (i, j) of the result is
`t = 0; for k < M: t += this(i,k) * o(k,j)`, for every i < N, j < P, over any scalar type with `+` and `*`. -/
theorem matmul_translated (ir : List Nat) (rr : List α) (ar : List (List Nat → α)) (F N M P : Nat) (A B r0 : List Nat → α) (hN : N < 2^64) (hM : M < 2^64) (hP : P < 2^64)
    (hF : N < F ∧ M < F ∧ P < F) (i0 j0 k0 : Nat) (t0 : α) :
    ∃ env' : Env α, exec F Ref.matmul ⟨N :: M :: P :: i0 :: j0 :: k0 :: ir, t0 :: rr, A :: B :: r0 :: ar⟩ = some env'
      ∧ ∀ i j, i < N → j < P → (env'.arr.getD 2 (fun _ => 0)) [i, j] = dotN A B i j M 0 := by
  obtain ⟨j, k, t, h⟩ := matmul_exec ir rr ar F N M P A B r0 hN hM hP hF i0 j0 k0 t0
  exact ⟨_, h, fun i j hi hj => by simp [fill2_at, hi, hj]⟩

theorem dotN_eq_sumFin (A B : List Nat → α) (i j m : Nat) (f : Fin m → α) (h : ∀ k (hk : k < m), A [i, k] * B [k, j] = f ⟨k, hk⟩) :
    dotN A B i j m 0 = sumFin m f := by
  rw [dotN, sumFin]
  generalize (0 : α) = t
  induction m generalizing t with
  | zero => rfl
  | succ m ih =>
    rw [List.finRange_succ_last, List.range_succ, List.foldl_append, List.foldl_append, List.foldl_map,
      ih (fun k => f k.castSucc) (fun k hk => h k (by omega))]
    simp [h m (by omega), Fin.last]

/-- a `Fin`-indexed matrix as an array of the kernel language (zero outside its bounds) -/
def ofMat {n m : Nat} (A : Fin n → Fin m → α) : List Nat → α :=
  fun ix => if h : ix.getD 0 0 < n ∧ ix.getD 1 0 < m then A ⟨ix.getD 0 0, h.1⟩ ⟨ix.getD 1 0, h.2⟩ else 0

theorem dotN_eq_matMul {n m p : Nat} (A : Fin n → Fin m → α) (B : Fin m → Fin p → α) (i : Fin n) (j : Fin p) :
    dotN (ofMat A) (ofMat B) i.val j.val m 0 = matMul A B i j :=
  dotN_eq_sumFin _ _ _ _ _ _ (fun k hk => by simp [ofMat, hk])

/-- Entry (i, j) of what `matrix::operator*` as written computes is the model's `matMul`. -/
theorem matmul_translated_model {n m p : Nat} (A : Fin n → Fin m → α) (B : Fin m → Fin p → α) (r0 : List Nat → α)
    (F : Nat) (hn : n < 2^64) (hm : m < 2^64) (hp : p < 2^64) (hF : n < F ∧ m < F ∧ p < F) (i0 j0 k0 : Nat) (t0 : α) :
    ∃ env' : Env α, exec F Ref.matmul ⟨[n, m, p, i0, j0, k0], [t0], [ofMat A, ofMat B, r0]⟩ = some env'
      ∧ ∀ (i : Fin n) (j : Fin p), (env'.arr.getD 2 (fun _ => 0)) [i.val, j.val] = matMul A B i j := by
  obtain ⟨env', h1, h2⟩ := matmul_translated [] [] [] F n m p (ofMat A) (ofMat B) r0 hn hm hp hF i0 j0 k0 t0
  exact ⟨env', h1, fun i j => by rw [h2 i.val j.val i.isLt j.isLt, dotN_eq_matMul]⟩

-- `Ref.affine_apply`: the variables of `Ref.matmul`, then integer 6 `i`; arrays 0 `this`, 1 `r` (the vector `(v, 1)`), 2 the product's result, 3 `v`
def apI : Stmt := .rset 1 [(.var 6), (.lit 0)] (.get 3 [(.var 6), (.lit 0)])
theorem ap_shape : Ref.affine_apply = .seq (.iassign 6 (.lit 0))
    (.seq (forLt 6 (.var 0) apI)
      (.seq (.rset 1 [(.var 0), (.lit 0)] .one)
        (.seq (.iassign 1 (.bin .add .S (.var 0) (.lit 1))) (.seq (.iassign 2 (.lit 1)) Ref.matmul)))) := rfl

def apStep (v : List Nat → α) (s : (List Nat → α) × Nat) : (List Nat → α) × Nat := (upd s.1 [s.2, 0] (v [s.2, 0]), s.2 + 1)

theorem ap_iterN_c (v : List Nat → α) : ∀ n s, (iterN (apStep v) n s).2 = s.2 + n :=
  Imp.iterN_count Prod.snd _ (fun _ => rfl)

/-- the homogeneous vector `(v, 1)` the code builds before the product -/
def homog (N : Nat) (v r0 : List Nat → α) : List Nat → α := upd (iterN (apStep v) N (r0, 0)).1 [N, 0] 1

theorem homog_eq (N : Nat) (v r0 : List Nat → α) :
    homog N v r0 = upd (fill (fun c => [c, 0]) (fun c => v [c, 0]) N r0) [N, 0] 1 :=
  congrArg (fun p : (List Nat → α) × Nat => upd p.1 [N, 0] 1) (iterN_fill (fun c => [c, 0]) (fun c => v [c, 0]) N r0)

theorem homog_at (N : Nat) (v r0 : List Nat → α) (k : Nat) (hk : k ≤ N) :
    homog N v r0 [k, 0] = if k < N then v [k, 0] else 1 := by
  rw [homog_eq, upd]
  by_cases h : k = N
  · subst h; simp
  · rw [if_neg (by simpa using h), fill_hit _ _ _ _ k (by omega), if_pos (by omega)]

theorem affine_apply_exec (F N : Nat) (A v r0 res0 : List Nat → α) (hN : N + 1 < 2^64) (hF : N + 1 < F)
    (m0 p0 i0 j0 k0 c0 : Nat) (t0 : α) :
    ∃ j k t, exec F Ref.affine_apply ⟨[N, m0, p0, i0, j0, k0, c0], [t0], [A, r0, res0, v]⟩
      = some ⟨[N, N + 1, 1, N, j, k, N], [t],
          [A, homog N v r0, fill2 (fun i j => dotN A (homog N v r0) i j (N + 1) 0) N 1 res0, v]⟩ := by
  obtain ⟨_, hcopy⟩ := exec_for_zero F 6 N (.var 0) apI
    (e := fun c (r : List Nat → α) (_ : Unit) => ⟨[N, m0, p0, i0, j0, k0, c], [t0], [A, r, res0, v]⟩)
    (step := fun c r => upd r [c, 0] (v [c, 0])) (by omega) (fun _ _ _ => rfl) (fun _ _ _ _ => ⟨(), rfl⟩) (by omega) r0 ()
  obtain ⟨j, k, t, h⟩ := matmul_exec [N] [] [v] F N (N + 1) 1 A (homog N v r0) res0
    (by omega) hN (by decide) ⟨by omega, hF, by omega⟩ i0 j0 k0 t0
  refine ⟨j, k, t, ?_⟩
  rw [homog_eq] at h ⊢
  rw [ap_shape]
  simp -implicitDefEqProofs only [imp_exec]
  rw [hcopy]
  simp -implicitDefEqProofs only [imp_exec, Nat.mod_eq_of_lt hN]
  exact h

/-- `affine<N>::operator*(vector<N>)` as written: component i of the result is the dot product of row i of the matrix with
the homogeneous vector `(v, 1)`, accumulated from 0 in the order k = 0 … N. -/
theorem affine_apply_translated (F N : Nat) (A v r0 res0 : List Nat → α) (hN : N + 1 < 2^64) (hF : N + 1 < F)
    (m0 p0 i0 j0 k0 c0 : Nat) (t0 : α) :
    ∃ env' : Env α, exec F Ref.affine_apply ⟨[N, m0, p0, i0, j0, k0, c0], [t0], [A, r0, res0, v]⟩ = some env'
      ∧ ∀ i, i < N → (env'.arr.getD 2 (fun _ => 0)) [i, 0] = dotN A (homog N v r0) i 0 (N + 1) 0 := by
  obtain ⟨j, k, t, h⟩ := affine_apply_exec F N A v r0 res0 hN hF m0 p0 i0 j0 k0 c0 t0
  exact ⟨_, h, fun i hi => by simp [fill2_at, hi]⟩

def ofVec {n : Nat} (v : Fin n → α) : List Nat → α :=
  fun ix => if h : ix.getD 0 0 < n then v ⟨ix.getD 0 0, h⟩ else 0

theorem dotN_homog_eq_affApply {N : Nat} (A : Fin N → Fin (N+1) → α) (v : Fin N → α) (r0 : List Nat → α) (i : Fin N) :
    dotN (ofMat A) (homog N (ofVec v) r0) i.val 0 (N + 1) 0 = affApply A v i :=
  dotN_eq_sumFin _ _ _ _ _ _ (fun k hk => by
    rw [homog_at N _ _ k (by omega)]
    by_cases h : k < N
    · simp [ofMat, ofVec, hk, h]
    · simp [ofMat, hk, h])

/-- Component i of what `affine::operator*(vector)` as written computes is the model's `affApply` (hence, C09, `A·v + t`). -/
theorem affine_apply_translated_model {N : Nat} (A : Fin N → Fin (N+1) → α) (v : Fin N → α) (r0 res0 : List Nat → α)
    (F : Nat) (hN : N + 1 < 2^64) (hF : N + 1 < F) (m0 p0 i0 j0 k0 c0 : Nat) (t0 : α) :
    ∃ env' : Env α, exec F Ref.affine_apply ⟨[N, m0, p0, i0, j0, k0, c0], [t0], [ofMat A, r0, res0, ofVec v]⟩ = some env'
      ∧ ∀ i : Fin N, (env'.arr.getD 2 (fun _ => 0)) [i.val, 0] = affApply A v i := by
  obtain ⟨env', h1, h2⟩ := affine_apply_translated F N (ofMat A) (ofVec v) r0 res0 hN hF m0 p0 i0 j0 k0 c0 t0
  exact ⟨env', h1, fun i => by rw [h2 i.val i.isLt, dotN_homog_eq_affApply]⟩

-- `Ref.identity`: integers 0 `N`, 1 `M`, 2 `i`, 3 `j`; array 0 `result`
def idJ : Stmt := .rset 0 [(.var 2), (.var 3)] (.sel (.bin .eq .S (.var 2) (.var 3)) .one .zero)
def idI : Stmt := .seq (.iassign 3 (.lit 0)) (forLt 3 (.var 1) idJ)
theorem id_shape : Ref.identity = .seq (.iassign 2 (.lit 0)) (forLt 2 (.var 0) idI) := rfl

theorem idI_exec (ir : List Nat) (rr : List α) (ar : List (List Nat → α)) (F N M i j0 : Nat) (r : List Nat → α)
    (hM : M < 2^64) (hF : M < F) :
    exec F idI ⟨N :: M :: i :: j0 :: ir, rr, r :: ar⟩
      = some ⟨N :: M :: i :: M :: ir, rr, fill (fun j => [i, j]) (fun j => if i = j then 1 else 0) M r :: ar⟩ := by
  obtain ⟨_, h⟩ := exec_for_zero F 3 M (.var 1) idJ (e := fun j (r : List Nat → α) (_ : Unit) => ⟨N :: M :: i :: j :: ir, rr, r :: ar⟩)
    (step := fun j r => upd r [i, j] (if i = j then 1 else 0)) hM (fun _ _ _ => rfl)
    (fun j r _ _ => ⟨(), by by_cases h : i = j <;> simp -implicitDefEqProofs only [imp_exec, idJ, h, if_true, if_false]⟩) hF r ()
  simp -implicitDefEqProofs only [imp_exec, idI]
  exact h

theorem identity_exec (ir : List Nat) (rr : List α) (ar : List (List Nat → α)) (F N M : Nat) (r0 : List Nat → α)
    (hN : N < 2^64) (hM : M < 2^64) (hF : N < F ∧ M < F) (i0 j0 : Nat) :
    ∃ j, exec F Ref.identity ⟨N :: M :: i0 :: j0 :: ir, rr, r0 :: ar⟩
      = some ⟨N :: M :: N :: j :: ir, rr, fill2 (fun i j => if i = j then 1 else 0) N M r0 :: ar⟩ := by
  obtain ⟨j, h⟩ := exec_for_zero F 2 N (.var 0) idI (e := fun i (r : List Nat → α) j => ⟨N :: M :: i :: j :: ir, rr, r :: ar⟩)
    (step := fun i r => fill (fun j => [i, j]) (fun j => if i = j then 1 else 0) M r) hN (fun _ _ _ => rfl)
    (fun i r j _ => ⟨M, idI_exec ir rr ar F N M i j r hM hF.2⟩) hF.1 r0 j0
  exact ⟨j, by rw [id_shape]; simp -implicitDefEqProofs only [imp_exec]; exact h⟩

/-- `matrix<N,M>::identity()` as written: entry (i, j) of the result is 1 on the diagonal and 0 elsewhere. -/
theorem identity_translated (F N M : Nat) (r0 : List Nat → α) (hN : N < 2^64) (hM : M < 2^64) (hF : N < F ∧ M < F) (i0 j0 : Nat) :
    ∃ env' : Env α, exec F Ref.identity ⟨[N, M, i0, j0], [], [r0]⟩ = some env'
      ∧ ∀ i j, i < N → j < M → (env'.arr.getD 0 (fun _ => 0)) [i, j] = if i = j then 1 else 0 := by
  obtain ⟨j, h⟩ := identity_exec [] [] [] F N M r0 hN hM hF i0 j0
  exact ⟨_, h, fun i j hi hj => by simp [fill2_at, hi, hj]⟩

-- `Ref.translation`, `Ref.scaling`: the variables of `Ref.identity`, then integer 4 `i`; arrays 0 `result`, 1 `arr`
def tlI (e : Covfie.Imp.Expr) : Stmt := .rset 0 [(.var 4), e] (.get 1 [(.var 4)])
/-- `Ref.translation` (`e` = `.var 0`) and `Ref.scaling` (`e` = `.var 4`): after `identity()`, `for (i < N) result(i, col) = arr[i]`
with `col` = `N` or `i` -/
def tlProg (e : Covfie.Imp.Expr) : Stmt :=
  .seq (.iassign 1 (.bin .add .S (.var 0) (.lit 1))) (.seq Ref.identity (.seq (.iassign 4 (.lit 0)) (forLt 4 (.var 0) (tlI e))))
theorem tl_shape : Ref.translation = tlProg (.var 0) ∧ Ref.scaling = tlProg (.var 4) := ⟨rfl, rfl⟩

theorem tl_exec (e : Covfie.Imp.Expr) (col : Nat → Nat) (F N : Nat)
    (he : ∀ M i j c : Nat, Covfie.Imp.eval 64 ⟨[N, M, i, j, c], []⟩ e = col c)
    (arr r0 : List Nat → α) (hN : N + 1 < 2^64) (hF : N + 1 < F) (m0 i0 j0 c0 : Nat) :
    ∃ j, exec F (tlProg e) ⟨[N, m0, i0, j0, c0], [], [r0, arr]⟩
      = some ⟨[N, N + 1, N, j, N], [],
          [fill (fun c => [c, col c]) (fun c => arr [c]) N (fill2 (fun i j => if i = j then 1 else 0) N (N + 1) r0), arr]⟩ := by
  obtain ⟨j, hid⟩ := identity_exec [c0] ([] : List α) [arr] F N (N + 1) r0 (by omega) hN ⟨by omega, hF⟩ i0 j0
  obtain ⟨_, htl⟩ := exec_for_zero F 4 N (.var 0) (tlI e)
    (e := fun c (r : List Nat → α) (_ : Unit) => ⟨[N, N + 1, N, j, c], [], [r, arr]⟩)
    (step := fun c r => upd r [c, col c] (arr [c])) (by omega) (fun _ _ _ => rfl)
    (fun c r _ _ => ⟨(), by simp -implicitDefEqProofs only [imp_exec, tlI, he]⟩)
    (by omega) (fill2 (fun i j => if i = j then 1 else 0) N (N + 1) r0) ()
  refine ⟨j, ?_⟩
  simp -implicitDefEqProofs only [imp_exec, tlProg, Nat.mod_eq_of_lt hN]
  rw [hid]
  simp -implicitDefEqProofs only [imp_exec]
  exact htl

theorem tl_translated (e : Covfie.Imp.Expr) (col : Nat → Nat) (F N : Nat)
    (he : ∀ M i j c : Nat, Covfie.Imp.eval 64 ⟨[N, M, i, j, c], []⟩ e = col c)
    (arr r0 : List Nat → α) (hN : N + 1 < 2^64) (hF : N + 1 < F) (m0 i0 j0 c0 : Nat) :
    ∃ env' : Env α, exec F (tlProg e) ⟨[N, m0, i0, j0, c0], [], [r0, arr]⟩ = some env'
      ∧ ∀ i j, i < N → j < N + 1 → (env'.arr.getD 0 (fun _ => 0)) [i, j]
          = if j = col i then arr [i] else (if i = j then 1 else 0) := by
  obtain ⟨j, h⟩ := tl_exec e col F N he arr r0 hN hF m0 i0 j0 c0
  refine ⟨_, h, fun i j hi hj => ?_⟩
  show fill (fun c => [c, col c]) (fun c => arr [c]) N _ [i, j] = _
  by_cases h : j = col i
  · rw [h, fill_hit (fun c => [c, col c]) _ _ _ i hi (by intro a b h; simpa using (List.cons.inj h).1), if_pos rfl]
  · rw [fill_miss _ _ _ _ _ (by intro c _ e; simp at e; exact h (e.1 ▸ e.2).symm), fill2_at, if_pos ⟨hi, hj⟩, if_neg h]

def ofArr {n : Nat} (t : Fin n → α) : List Nat → α :=
  fun ix => if h : ix.getD 0 0 < n then t ⟨ix.getD 0 0, h⟩ else 0

/-- `affine<N>::translation(t…)` as written (with `identity()` inlined) builds the model's `affTranslation t`. -/
theorem translation_translated {N : Nat} (t : Fin N → α) (r0 : List Nat → α) (F : Nat) (hN : N + 1 < 2^64) (hF : N + 1 < F)
    (m0 i0 j0 c0 : Nat) :
    ∃ env' : Env α, exec F Ref.translation ⟨[N, m0, i0, j0, c0], [], [r0, ofArr t]⟩ = some env'
      ∧ ∀ (i : Fin N) (j : Fin (N + 1)), (env'.arr.getD 0 (fun _ => 0)) [i.val, j.val] = affTranslation t i j := by
  obtain ⟨env', h1, h2⟩ := tl_translated (α := α) (.var 0) (fun _ => N) F N (fun _ _ _ _ => rfl) (ofArr t) r0 hN hF m0 i0 j0 c0
  rw [tl_shape.1]
  exact ⟨env', h1, fun i j => by rw [h2 i.val j.val i.isLt j.isLt]; simp [affTranslation, affId, ofArr]⟩

/-- `affine<N>::scaling(s…)` as written (with `identity()` inlined) builds the model's `affScaling s`. -/
theorem scaling_translated {N : Nat} (t : Fin N → α) (r0 : List Nat → α) (F : Nat) (hN : N + 1 < 2^64) (hF : N + 1 < F)
    (m0 i0 j0 c0 : Nat) :
    ∃ env' : Env α, exec F Ref.scaling ⟨[N, m0, i0, j0, c0], [], [r0, ofArr t]⟩ = some env'
      ∧ ∀ (i : Fin N) (j : Fin (N + 1)), (env'.arr.getD 0 (fun _ => 0)) [i.val, j.val] = affScaling t i j := by
  obtain ⟨env', h1, h2⟩ := tl_translated (α := α) (.var 4) (fun c => c) F N (fun _ _ _ _ => rfl) (ofArr t) r0 hN hF m0 i0 j0 c0
  rw [tl_shape.2]
  refine ⟨env', h1, fun i j => ?_⟩
  rw [h2 i.val j.val i.isLt j.isLt]
  by_cases h : j.val = i.val
  · simp [affScaling, ofArr, h]
  · have h' : ¬ i.val = j.val := fun e => h e.symm
    simp [affScaling, affId, h, h']

/-! Another reading of the same loops, which the theorems above do not go through: `matrix::operator*` and `identity()` as
iterated steps (`iterN`) on records of all their variables, counters included, with what `n` steps do to the counter. -/

structure MJ (α : Type) where
  r : List Nat → α
  j : Nat
  t : α
  k : Nat

def mmStepJ (A B : List Nat → α) (i M : Nat) (s : MJ α) : MJ α :=
  ⟨upd s.r [i, s.j] (dotN A B i s.j M 0), s.j + 1, dotN A B i s.j M 0, M⟩

theorem mmJ_iterN_j (A B : List Nat → α) (i M : Nat) : ∀ n (s : MJ α), (iterN (mmStepJ A B i M) n s).j = s.j + n :=
  Imp.iterN_count MJ.j _ (fun _ => rfl)

structure MI (α : Type) where
  r : List Nat → α
  i : Nat
  j : Nat
  t : α
  k : Nat

def mmStepI (A B : List Nat → α) (M P : Nat) (s : MI α) : MI α :=
  let q := iterN (mmStepJ A B s.i M) P ⟨s.r, 0, s.t, s.k⟩
  ⟨q.r, s.i + 1, q.j, q.t, q.k⟩

theorem mmI_iterN_i (A B : List Nat → α) (M P : Nat) : ∀ n (s : MI α), (iterN (mmStepI A B M P) n s).i = s.i + n :=
  Imp.iterN_count MI.i _ (fun _ => rfl)

def idStepJ (i : Nat) (s : (List Nat → α) × Nat) : (List Nat → α) × Nat :=
  (upd s.1 [i, s.2] (if i = s.2 then 1 else 0), s.2 + 1)

theorem idJ_iterN_j (i : Nat) : ∀ n (s : (List Nat → α) × Nat), (iterN (idStepJ i) n s).2 = s.2 + n :=
  Imp.iterN_count Prod.snd _ (fun _ => rfl)

end Covfie.RImp
