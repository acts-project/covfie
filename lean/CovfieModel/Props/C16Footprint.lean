import CovfieModel.Lemmas.Stack
import CovfieModel.Props.C11
/-! # C16 (footprint part) — a lookup is a pure function of the storage cells in its footprint.
    The footprint of a lookup is the trace of the instrumented evaluator (the flat indices that reached the array).
    If two storages agree on the footprint, the lookup returns the same value with the same footprint — for every
    stack of layers. Together with `Covfie.C16.interleaving_eq_solo` (cell-level determinism under non-conflicting
    writes) this is what makes concurrent lookups deterministic: a writer that stays outside a reader's footprint
    cannot change what the reader obtains. -/
namespace Covfie.C16

def AgreeOn (cs cs' : List (List Num)) (t : List Nat) : Prop :=
  cs.length = cs'.length ∧ ∀ i ∈ t, cs[i]? = cs'[i]?

theorem AgreeOn.mono {cs cs' : List (List Num)} {t t' : List Nat} (h : AgreeOn cs cs' t) (hs : ∀ i ∈ t', i ∈ t) :
    AgreeOn cs cs' t' := ⟨h.1, fun i hi => h.2 i (hs i hi)⟩

/-- `b'` reproduces every successful lookup of `b` whose footprint the two storages agree on -/
def Follows (cs cs' : List (List Num)) (b b' : Backend) : Prop :=
  ∀ c v t, b c = .ok (v, t) → AgreeOn cs cs' t → b' c = .ok (v, t)

theorem follows_array (cs cs' : List (List Num)) : Follows cs cs' (arrayB cs) (arrayB cs') := by
  intro c v t h ha
  obtain ⟨i, rfl, hi, rfl⟩ := arrayB_eq_ok.1 h
  exact arrayB_eq_ok.2 ⟨i, rfl, ha.2 i (List.mem_singleton_self i) ▸ hi, rfl⟩

theorem follows_refl (cs cs' : List (List Num)) (b : Backend) : Follows cs cs' b b := fun _ _ _ h _ => h

theorem follows_clamp {cs cs'} {b b' : Backend} (lo hi : List Num) (h : Follows cs cs' b b') :
    Follows cs cs' (clampL lo hi b) (clampL lo hi b') := fun _ v t hb ha => h _ v t hb ha
theorem follows_shuffle {cs cs'} {b b' : Backend} (p : List Nat) (h : Follows cs cs' b b') :
    Follows cs cs' (shuffleL p b) (shuffleL p b') := fun _ v t hb ha => h _ v t hb ha
theorem follows_deref {cs cs'} {b b' : Backend} (h : Follows cs cs' b b') : Follows cs cs' (derefL b) (derefL b') := h

theorem follows_backup {cs cs'} {b b' : Backend} (lo hi df : List Num) (h : Follows cs cs' b b') :
    Follows cs cs' (backupL lo hi df b) (backupL lo hi df b') := by
  intro c v t hb ha
  cases ho : outside lo hi c with
  | true => rw [C11.backup_outside _ _ _ _ _ ho] at hb ⊢; exact hb
  | false => rw [C11.backup_inside _ _ _ _ _ ho] at hb ⊢; exact h c v t hb ha

theorem follows_cast {cs cs'} {b b' : Backend} (cv : Conv) (h : Follows cs cs' b b') : Follows cs cs' (castL cv b) (castL cv b') :=
  fun c _ t hb ha =>
  let ⟨v₀, hq, hm⟩ := castL_eq_ok.1 hb
  castL_eq_ok.2 ⟨v₀, h c v₀ t hq ha, hm⟩

theorem follows_affine {cs cs'} {b b' : Backend} (m : List (List Rat)) (h : Follows cs cs' b b') :
    Follows cs cs' (affineL m b) (affineL m b') := fun _ v t hb ha =>
  let ⟨x, hx, hq⟩ := affineL_eq_ok.1 hb
  affineL_eq_ok.2 ⟨x, hx, h _ v t hq ha⟩

theorem follows_nn {cs cs'} {b b' : Backend} (h : Follows cs cs' b b') : Follows cs cs' (nnL b) (nnL b') := fun _ v t hb ha =>
  let ⟨nc, hx, hq⟩ := nnL_eq_ok.1 hb
  nnL_eq_ok.2 ⟨nc, hx, h _ v t hq ha⟩

theorem follows_layout {cs cs'} {b b' : Backend} (idx : List Nat → Nat) (h : Follows cs cs' b b') :
    Follows cs cs' (layoutL idx b) (layoutL idx b') := fun _ v t hb ha =>
  let ⟨ns, hx, hq⟩ := layoutL_eq_ok.1 hb
  layoutL_eq_ok.2 ⟨ns, hx, h _ v t hq ha⟩

/-- every corner lookup of a successful interpolation has its footprint inside the whole, so `b'` reproduces each, and
    the interpolator sees nothing else of what lies beneath -/
theorem follows_linear {cs cs'} {b b' : Backend} (h : Follows cs cs' b b') : Follows cs cs' (linearL b) (linearL b') := by
  intro c v t hb ha
  obtain ⟨parts, rs, hp, hrs, rfl, -⟩ := linearL_of_ok hb
  rw [← hb]
  refine (linearL_congr hp ?_).symm
  rw [hrs]
  refine (mapE_mono hrs fun bs _ r hr hq => ?_).symm
  rw [cornerQuery_eq_ok] at hq ⊢
  exact ⟨h _ _ _ hq.1 (ha.mono fun i hi => List.mem_flatMap.2 ⟨r, hr, hi⟩), hq.2⟩

/-- replace the stored cells at the bottom of a stack's data -/
def withCells : Data → List (List Num) → Data
  | .array _, cs => .array cs
  | .sized sz d, cs => .sized sz (withCells d cs)
  | .box lo hi d, cs => .box lo hi (withCells d cs)
  | .boxd lo hi df d, cs => .boxd lo hi df (withCells d cs)
  | .aff m d, cs => .aff m (withCells d cs)
  | .thin d, cs => .thin (withCells d cs)
  | d, _ => d

theorem withCells_withCells (d : Data) (cs cs' : List (List Num)) :
    withCells (withCells d cs) cs' = withCells d cs' := by
  induction d with
  | sized _ _ ih | box _ _ _ ih | boxd _ _ _ _ ih | aff _ _ ih | thin _ ih => exact congrArg _ ih
  | _ => rfl

/-- the lookup over `d` with the cells `cs'` put in follows the lookup over `d`, where `hd` says that the cells of `d`,
    if it has any, are `cs`; stated about `d` itself so that the induction can run along the definition of `eval` -/
theorem follows_withCells (cv : Conv) (s : Stack) (d : Data) (cs cs' : List (List Num)) (hd : withCells d cs = d) :
    Follows cs cs' (eval cv s d) (eval cv s (withCells d cs')) := by
  fun_induction eval cv s d
  case case1 => cases hd; exact follows_array cs cs'
  case case2 | case3 => exact follows_refl cs cs' _
  case case4 ih | case5 ih | case6 ih | case7 ih => exact follows_layout _ (ih (Data.sized.inj hd).2)
  case case8 ih => exact follows_clamp _ _ (ih (Data.box.inj hd).2.2)
  case case9 ih => exact follows_backup _ _ _ (ih (Data.boxd.inj hd).2.2.2)
  case case10 ih => exact follows_affine _ (ih (Data.aff.inj hd).2)
  case case11 ih => exact follows_shuffle _ (ih (Data.thin.inj hd))
  case case12 ih => exact follows_cast _ (ih (Data.thin.inj hd))
  case case13 ih => exact follows_deref (ih (Data.thin.inj hd))
  case case14 ih => exact follows_nn (ih (Data.thin.inj hd))
  case case15 ih => exact follows_linear (ih (Data.thin.inj hd))
  -- stack and data do not fit: the lookup never succeeds
  case case16 => intro c v t h; cases h

/-- **a lookup is a function of the cells in its footprint** — every stack, every coordinate -/
theorem eval_follows (cv : Conv) (s : Stack) (d : Data) (cs cs' : List (List Num)) :
    Follows cs cs' (eval cv s (withCells d cs)) (eval cv s (withCells d cs')) := by
  have h := follows_withCells cv s (withCells d cs) cs cs' (withCells_withCells d cs cs)
  rwa [withCells_withCells] at h

/-- corollary in the words of the property: a view write to a cell outside a lookup's footprint does not change
    what the lookup returns -/
theorem write_outside_footprint (cv : Conv) (s : Stack) (d : Data) (cs : List (List Num)) (c : List Num)
    (v : List Num) (t : List Nat) (h : eval cv s (withCells d cs) c = .ok (v, t))
    (j : Nat) (x : List Num) (hj : j ∉ t) :
    eval cv s (withCells d (cs.set j x)) c = .ok (v, t) := by
  apply eval_follows cv s d cs (cs.set j x) c v t h
  refine ⟨by simp, ?_⟩
  intro i hi
  have : j ≠ i := fun e => hj (e ▸ hi)
  simp [this]

end Covfie.C16
