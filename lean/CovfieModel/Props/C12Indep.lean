import CovfieModel.Props.C12
/-! # C12 / C16 — operations on different fields do not interfere, in any interleaving

`Op.slots a` are the fields an operation names.  In the value model an operation changes nothing outside them
(`astep_frame`) and what it does to them depends on nothing outside them (`astep_local`).  Hence operations naming disjoint
fields commute (`astep_comm`), and for threads that work on fields of their own, every interleaving leaves each thread's
fields exactly as that thread's program alone leaves them (`interleaving_eq_alone`) — the value-level statement behind the
"threads on objects of their own" runs of C16 (`life_harness.cpp`) and the independence half of C12.  By `history_refines`
the concrete ownership machine follows the value model on every history. -/
namespace Covfie.C12
open Covfie.Heap

def Op.slots : Op → List Nat
  | .ctor i _ | .dtor i | .write i _ _ => [i]
  | .copyCtor d s | .moveCtor d s | .copyAssign d s | .moveAssign d s | .convert d s | .dumpLoad d s => [d, s]

/-- How an operation acts on the value model: it branches on the fields it names and on nothing else, and every branch
    returns the state or updates of it, in named fields, by values computed from those.  So a relation that holds
    between two states agreeing on the named fields, and survives equal updates of a named field, holds afterwards. -/
theorem astep_rel (a : Op) (s s' : AState) (hs : ∀ i ∈ Op.slots a, s i = s' i) (R : AState → AState → Prop) (h0 : R s s')
    (hu : ∀ f g, R f g → ∀ k ∈ Op.slots a, ∀ v, R (upd f k v) (upd g k v)) : R (astep s a) (astep s' a) := by
  cases a with
  | ctor i n =>
    dsimp only [astep]; rw [hs i (.head _)]
    split
    · exact h0
    · exact hu _ _ h0 i (.head _) _
  | dtor i => exact hu _ _ h0 i (.head _) _
  | copyCtor d r =>
    dsimp only [astep]; rw [hs d (.head _), hs r (.tail _ (.head _))]
    split
    · exact hu _ _ h0 d (.head _) _
    · exact h0
  | moveCtor d r =>
    dsimp only [astep]; rw [hs d (.head _), hs r (.tail _ (.head _))]
    split
    · exact hu _ _ (hu _ _ h0 r (.tail _ (.head _)) _) d (.head _) _
    · exact h0
  | copyAssign d r =>
    dsimp only [astep]; rw [hs d (.head _), hs r (.tail _ (.head _))]
    split
    · split
      · exact h0
      · exact hu _ _ h0 d (.head _) _
    · exact h0
  | moveAssign d r =>
    dsimp only [astep]; rw [hs d (.head _), hs r (.tail _ (.head _))]
    split
    · split
      · exact h0
      · exact hu _ _ (hu _ _ h0 r (.tail _ (.head _)) _) d (.head _) _
    · exact h0
  | write i k v =>
    dsimp only [astep]; rw [hs i (.head _)]
    split
    · split
      · exact hu _ _ h0 i (.head _) _
      · exact h0
    · exact h0
  | convert d r =>
    dsimp only [astep]; rw [hs d (.head _), hs r (.tail _ (.head _))]
    split
    · exact hu _ _ h0 d (.head _) _
    · exact h0
  | dumpLoad d r =>
    dsimp only [astep]; rw [hs r (.tail _ (.head _))]
    split
    · exact hu _ _ h0 d (.head _) _
    · exact h0

theorem astep_frame (s : AState) (a : Op) (j : Nat) (h : j ∉ Op.slots a) : astep s a j = s j :=
  astep_rel a s s (fun _ _ => rfl) (fun f _ => f j = s j) rfl
    (fun f _ hf k hk v => (upd_other f k j v (fun e => h (e ▸ hk))).trans hf)

theorem write_not_visible_elsewhere (s : AState) (i j k v : Nat) (h : j ≠ i) : astep s (.write i k v) j = s j :=
  astep_frame s _ j fun hm => h (List.mem_singleton.mp hm)

theorem astep_agree (a : Op) (J : Nat → Prop) (hJ : ∀ i ∈ Op.slots a, J i) (s s' : AState) (h : ∀ i, J i → s i = s' i) :
    ∀ i, J i → astep s a i = astep s' a i :=
  astep_rel a s s' (fun i hi => h i (hJ i hi)) (fun f g => ∀ i, J i → f i = g i) h
    (fun _ _ hfg k _ v i hi => upd_congr (hfg i hi) k v)

theorem astep_local (s s' : AState) (a : Op) (h : ∀ i ∈ Op.slots a, s i = s' i) :
    ∀ i ∈ Op.slots a, astep s a i = astep s' a i :=
  astep_agree a (· ∈ Op.slots a) (fun _ hi => hi) s s' h

theorem astep_comm (s : AState) (a b : Op) (h : ∀ i ∈ Op.slots a, i ∉ Op.slots b) :
    astep (astep s a) b = astep (astep s b) a := by
  funext j
  by_cases hb : j ∈ Op.slots b
  · have ha : j ∉ Op.slots a := fun ha => h j ha hb
    rw [astep_frame _ a j ha]
    exact astep_agree b (· ∉ Op.slots a) (fun i hi hia => h i hia hi) _ s (fun i hi => astep_frame s a i hi) j ha
  · rw [astep_frame _ b j hb]
    exact (astep_agree a (· ∉ Op.slots b) h _ s (fun i hi => astep_frame s b i hi) j hb).symm

/-- the program of thread `t` inside a trace of (thread, operation) pairs -/
def progOf (t : Nat) (tr : List (Nat × Op)) : List Op := (tr.filter (fun p => p.1 = t)).map (·.2)

theorem progOf_cons (t : Nat) (p : Nat × Op) (tr : List (Nat × Op)) :
    progOf t (p :: tr) = if p.1 = t then p.2 :: progOf t tr else progOf t tr := by
  unfold progOf; rw [List.filter_cons]
  by_cases h : p.1 = t <;> simp [h]

/-- **threads that work on fields of their own**: `J` is a set of fields that thread `t`'s operations stay inside and
    that no other thread's operation names.  Then, whatever the interleaving, the fields in `J` end up exactly as thread
    `t`'s program alone leaves them. -/
theorem interleaving_eq_alone (t : Nat) (J : Nat → Prop) (tr : List (Nat × Op))
    (hin : ∀ p ∈ tr, p.1 = t → ∀ i ∈ Op.slots p.2, J i)
    (hout : ∀ p ∈ tr, p.1 ≠ t → ∀ i ∈ Op.slots p.2, ¬ J i)
    (s s' : AState) (hs : ∀ i, J i → s i = s' i) :
    ∀ i, J i → (tr.map (·.2)).foldl astep s i = (progOf t tr).foldl astep s' i := by
  induction tr generalizing s s' with
  | nil => exact hs
  | cons p rest ih =>
    have ih := ih (fun q hq => hin q (.tail _ hq)) (fun q hq => hout q (.tail _ hq))
    rw [progOf_cons]
    split
    · next hp => exact ih _ _ (astep_agree p.2 J (hin p (.head _) hp) s s' hs)
    · next hp =>
      exact ih _ s' fun i hi => (astep_frame s p.2 i fun hm => hout p (.head _) hp i hm hi).trans (hs i hi)

/-- the same for the concrete ownership machine (buffers, allocator, pointers), from the empty heap -/
theorem concrete_interleaving (t : Nat) (J : Nat → Prop) (tr : List (Nat × Op))
    (hin : ∀ p ∈ tr, p.1 = t → ∀ i ∈ Op.slots p.2, J i)
    (hout : ∀ p ∈ tr, p.1 ≠ t → ∀ i ∈ Op.slots p.2, ¬ J i) (i : Nat) (hi : J i) :
    abs ((tr.map (·.2)).foldl cstep cinit) i = abs ((progOf t tr).foldl cstep cinit) i := by
  rw [history_refines, history_refines]
  exact interleaving_eq_alone t J tr hin hout _ _ (fun _ _ => rfl) i hi

-- non-vacuity: two threads, fields {0,1} and {2,3}
example : (([(0, Op.ctor 0 2), (1, Op.ctor 2 3), (0, Op.write 0 1 7), (1, Op.copyCtor 3 2), (0, Op.convert 1 0)] : List (Nat × Op)).map
    (·.2)).foldl astep (fun _ => none) 1 = some (.live [0, 7]) := by decide
end Covfie.C12
