import CovfieModel.Props.C06
import CovfieModel.Lemmas.WidenBits
/-! # C07 — a field loaded from a file of the other float width is a well-formed field of its own type

`convDat w` is what `array::read_binary` leaves in a field whose stored scalars are `w` bytes wide when the file's
scalars have the other width (`static_cast` per scalar).  The converted patterns fit the target width, hence the converted
content is well-formed for the same type, hence the loaded field's own dump is a valid file that reloads to exactly that
content and stores `w`-byte scalars — whatever the width of the file it came from.  (Harness: `crossredump`.) -/
namespace Covfie.C07
open Covfie.IO

theorem pack32_le (M : Nat) (E : Int) : pack32 M E ≤ 0x7f800000 := by
  unfold pack32
  simp only []
  split <;> omega

theorem narrowBits_lt (b : Nat) : narrowBits b < 2^32 := by
  have hs : b / 2^63 % 2 < 2 := Nat.mod_lt _ (by decide)
  have hor : (b % 2^52 / 2^29) ||| 2^22 < 2^23 :=
    Nat.or_lt_two_pow (Nat.div_lt_of_lt_mul (Nat.mod_lt _ (Nat.two_pow_pos 52))) (by decide)
  have hp := pack32_le (narrowME (dec64 b).1 (dec64 b).2).1 (narrowME (dec64 b).1 (dec64 b).2).2
  simp only [narrowBits]
  -- every branch is the sign bit plus a magnitude below `2^31`
  generalize b / 2^63 % 2 = s at *
  generalize (b % 2^52 / 2^29) ||| 2^22 = p at *
  generalize pack32 _ _ = q at *
  split
  · split <;> omega
  · split <;> omega

theorem widenBits_lt (b : Nat) (_hb : b < 2^32) : widenBits b < 2^64 := by
  by_cases he : b / 2^23 % 2^8 = 255
  · have hs : b / 2^31 % 2 < 2 := Nat.mod_lt _ (by decide)
    have hor : (b % 2^23) ||| 2^22 < 2^23 := Nat.or_lt_two_pow (Nat.mod_lt _ (by decide)) (by decide)
    simp only [widenBits, he, if_true]
    generalize b / 2^31 % 2 = s at *
    generalize (b % 2^23) ||| 2^22 = p at *
    split <;> omega
  · obtain ⟨-, h, -⟩ := widenBits_finite b he
    exact h
theorem allLt_map {f : Nat → Nat} {B B' : Nat} (hf : ∀ x, x < B → f x < B') (l : List Nat) (h : allLt B l) :
    allLt B' (l.map f) := by
  intro y hy
  obtain ⟨x, hx, rfl⟩ := List.mem_map.mp hy
  exact hf x (h x hx)

theorem convCell_lt (wd w x : Nat) (hwd : wd = 4 ∨ wd = 8) (hw : w = 4 ∨ w = 8) (hx : x < 256^wd) : convCell wd w x < 256^w := by
  unfold convCell
  rcases hwd with rfl | rfl <;> rcases hw with rfl | rfl
  · simpa using hx
  · simp only [show (4 : Nat) ≠ 8 by omega, if_false, true_and, if_true]
    have := widenBits_lt x (by simpa using hx)
    simpa using this
  · simp only [show (8 : Nat) ≠ 4 by omega, if_false, false_and, true_and, if_true]
    have := narrowBits_lt x
    simpa using this
  · simpa using hx

theorem convDat_WF (ty : Ty) (d : Dat) (w : Nat) (hw : w = 4 ∨ w = 8) (h : WF ty d) : WF ty (convDat w d) :=
  WF.ind (P := fun ty d => WF ty (convDat w d))
    (array := fun _ wd _ cells h =>
      ⟨hw, h.2.1, (List.length_map _).trans h.2.2.1, allLt_map (fun x hx => convCell_lt wd w x h.1 hw hx) cells h.2.2.2⟩)
    (constant := fun _ _ _ h => h)
    (identity := trivial)
    (sized := fun _ _ _ _ _ h ih => h.sized_congr ih)
    (clamp := fun _ _ _ _ _ _ h ih => h.clamp_congr ih)
    (backup := fun _ _ _ _ _ _ _ _ _ h ih => h.backup_congr ih)
    (affine := fun _ _ _ _ _ h ih => h.affine_congr ih)
    (thin := fun _ _ _ ih => ih) ty d h

/-- the stored-scalar width of (the array at the bottom of) some content -/
def widthOf : Dat → Option Nat
  | .array wd _ _ => some wd
  | .constant _ | .identity => none
  | .sized _ d | .clamp _ _ d | .backup _ _ _ d | .affine _ d | .thin d => widthOf d

/-- whatever the width of the file, the loaded field holds scalars of its own width -/
theorem convDat_width (w : Nat) (d : Dat) : widthOf (convDat w d) = (widthOf d).map fun _ => w := by
  induction d with
  | array wd count cells => rfl
  | constant v => rfl
  | identity => rfl
  | sized cfg d ih => simpa [convDat, widthOf] using ih
  | clamp lo hi d ih => simpa [convDat, widthOf] using ih
  | backup lo hi df d ih => simpa [convDat, widthOf] using ih
  | affine m d ih => simpa [convDat, widthOf] using ih
  | thin d ih => simpa [convDat, widthOf] using ih

/-- **re-dump of a cross-width load**: the dump of the converted content is a file of the field's own type that loads
    back to exactly that content — nothing of the source file's width survives in the loaded field -/
theorem cross_width_redump (ty : Ty) (d : Dat) (w : Nat) (hw : w = 4 ∨ w = 8) (h : WF ty d) (rest : List Byte) :
    load ty (dump ty (convDat w d) ++ rest) = .ok (convDat w d, rest) :=
  C06.load_dump ty (convDat w d) rest (convDat_WF ty d w hw h)

/-- same width: loading changes nothing -/
theorem convDat_same (d : Dat) (w : Nat) (h : widthOf d = some w ∨ widthOf d = none) : convDat w d = d := by
  induction d with
  | array wd count cells =>
    rcases h with h | h
    · simp only [widthOf, Option.some.injEq] at h
      subst h
      have hid : ∀ x, convCell wd wd x = x := by intro x; simp [convCell]
      simp only [convDat, List.map_id'' hid]
    · simp [widthOf] at h
  | constant v => rfl
  | identity => rfl
  | sized cfg d ih => simp only [convDat]; rw [ih (by simpa [widthOf] using h)]
  | clamp lo hi d ih => simp only [convDat]; rw [ih (by simpa [widthOf] using h)]
  | backup lo hi df d ih => simp only [convDat]; rw [ih (by simpa [widthOf] using h)]
  | affine m d ih => simp only [convDat]; rw [ih (by simpa [widthOf] using h)]
  | thin d ih => simp only [convDat]; rw [ih (by simpa [widthOf] using h)]

-- non-vacuity: a float file's content, as held by a double field
example : WF (.thin (.sized 0xAB020005 2 (.array 1))) (.thin (.sized [2, 1] (.array 4 2 [0x3f800000, 0x00000001]))) := by
  simp [WF, allLt, FOOT]
#guard convDat 8 (.thin (.sized [2, 1] (.array 4 2 [0x3f800000, 0x00000001])))
      == .thin (.sized [2, 1] (.array 8 2 [0x3ff0000000000000, 0x36a0000000000000]))

end Covfie.C07
