import CovfieModel.Model.LinearW
import CovfieModel.Lemmas.Stack
/-! # C03 (index width) — the code's index arithmetic versus the idealised interpolator. -/
namespace Covfie.C03
open Covfie

theorem truncIdxW_eq {w : Nat} {x : Num} {p : Nat × Rat} (h : truncIdxW w x = .ok p) : truncIdx x = .ok p := by
  cases x with
  | fin q =>
    simp only [truncIdxW, truncIdx] at h ⊢
    split at h
    · rename_i hq; rw [if_pos hq.1]; exact h
    · cases h
  | _ => cases h

theorem addBitsW_eq (w : Nat) (is : List Nat) (bs : List Bool) (h : ∀ i ∈ is, i + 1 < 2^w) :
    addBitsW w is bs = addBits is bs := by
  unfold addBitsW addBits
  rw [← List.map_uncurry_zip_eq_zipWith, ← List.map_uncurry_zip_eq_zipWith]
  refine List.map_congr_left fun p hp => ?_
  have := h p.1 (List.of_mem_zip hp).1
  simp only [Function.uncurry]
  rw [Nat.mod_eq_of_lt (by split <;> omega)]

/-- **on the domain `⌊x_k⌋ + 1 < 2^w` the width-faithful interpolator is the idealised one** — so every theorem about
    `linearL` (interpolant, hull, lattice, safety over a clamp layer) transfers to the code's index arithmetic there -/
theorem linearLW_eq_linearL (w : Nat) (bk : Backend) (c : List Num) (parts : List (Nat × Rat))
    (hp : mapE (truncIdxW w) c = .ok parts) (hb : ∀ p ∈ parts, p.1 + 1 < 2^w) :
    linearLW w bk c = linearL bk c := by
  unfold linearLW linearL
  rw [hp, mapE_mono hp fun _ _ _ _ => truncIdxW_eq]
  have hbi : ∀ i ∈ parts.map (·.1), i + 1 < 2^w := fun i hi => by
    obtain ⟨p, hp', rfl⟩ := List.mem_map.1 hi
    exact hb p hp'
  have : mapE (cornerQueryW w bk (parts.map (·.1))) (corners c.length) =
      mapE (cornerQuery bk (parts.map (·.1))) (corners c.length) :=
    mapE_congr fun bs _ => by rw [cornerQueryW, cornerQuery, addBitsW_eq w _ bs hbi]; rfl
  simp only [this]
  rfl

/-! ## The unrestricted statement is false for the code's arithmetic: the two recorded findings, evaluated in the model -/
/-- values 10,20,30,40 beneath a clamp `[0,3]` -/
def exBk : Backend := clampL [.fin 0] [.fin 3] (arrayB [[.fin 10], [.fin 20], [.fin 30], [.fin 40]])

-- control: x = 7.25 (clamped on both neighbours) gives 40 in both versions
#guard (linearLW 32 exBk [.fin (29/4)]) matches .ok ([.fin 40], _)
#guard (linearL exBk [.fin (29/4)]) matches .ok ([.fin 40], _)
-- F15: with a 32-bit index, x = 4294967295.5 reads cells 3 and 0 (the +1 neighbour wraps): 25, not 40
#guard (linearLW 32 exBk [.fin (8589934591/2)]) matches .ok ([.fin 25], [3, 0])
#guard (linearL exBk [.fin (8589934591/2)]) matches .ok ([.fin 40], [3, 3])
-- F13: x = 10^30 is outside the range of a 64-bit index: the conversion is undefined behaviour
#guard (linearLW 64 exBk [.fin (10^30)]) matches .error .floatToInt

end Covfie.C03
