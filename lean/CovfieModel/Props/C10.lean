import CovfieModel.Props.C15
import Mathlib.Tactic.Linarith
import Mathlib.Algebra.Order.Field.Basic
/-! # C10 — Clamping makes every coordinate safe -/
namespace Covfie.C10

/-- `a ≤ b` on non-NaN numbers -/
def le (a b : Num) : Prop := Num.lt b a = false ∧ a.isNan = false ∧ b.isNan = false

theorem num_lt_irrefl (a : Num) : Num.lt a a = false := by cases a <;> simp [Num.lt]

/-- for every coordinate value whatsoever (±∞ included, NaN excluded) the clamped value lies in the box -/
theorem clamp_in_box (lo hi x : Num) (hb : le lo hi) (hx : x.isNan = false) :
    le lo (clampNum lo hi x) ∧ le (clampNum lo hi x) hi := by
  obtain ⟨h1, h2, h3⟩ := hb
  unfold clampNum
  split
  · exact ⟨⟨num_lt_irrefl lo, h2, h2⟩, h1, h2, h3⟩
  · split
    · exact ⟨⟨h1, h2, h3⟩, num_lt_irrefl hi, h3, h3⟩
    · rename_i hlo hhi
      exact ⟨⟨by simpa using hlo, h2, hx⟩, by simpa using hhi, hx, h3⟩

theorem clamp_id_inside (lo hi x : Num) (h1 : le lo x) (h2 : le x hi) : clampNum lo hi x = x := by
  unfold clampNum; simp [h1.1, h2.1]

theorem clamp_idem (lo hi x : Num) (hb : le lo hi) (hx : x.isNan = false) :
    clampNum lo hi (clampNum lo hi x) = clampNum lo hi x := by
  obtain ⟨h1, h2⟩ := clamp_in_box lo hi x hb hx
  exact clamp_id_inside lo hi _ h1 h2

theorem clamp_eval (lo hi : List Num) (b : Backend) (c : List Num) :
    clampL lo hi b c = b (zip3With clampNum lo hi c) := rfl

/-- on finite values the layer's clamp is `max lo (min hi x)` — the one-line definition the exhaustive narrow-type sweeps of the
    harness evaluate for every value of an 8- or 16-bit coordinate type -/
theorem clampNum_eq_max_min (lo hi x : ℚ) (h : lo ≤ hi) : clampNum (.fin lo) (.fin hi) (.fin x) = .fin (max lo (min hi x)) := by
  simp only [clampNum, Num.lt, decide_eq_true_eq]
  split_ifs with h1 h2
  · rw [min_eq_right (h1.le.trans h), max_eq_left h1.le]
  · rw [min_eq_left h2.le, max_eq_right h]
  · rw [min_eq_right (not_lt.1 h2), max_eq_right (not_lt.1 h1)]

example : clampNum (.fin 0) (.fin 4) .pinf = .fin 4 ∧ clampNum (.fin 0) (.fin 4) .ninf = .fin 0 ∧
    clampNum (.fin 0) (.fin 4) (.fin 3) = .fin 3 := by decide

def BoxIn : List Nat → List Nat → List Nat → Prop
  | [], [], [] => True
  | l :: ls, h :: hs, s :: ss => l ≤ h ∧ h < s ∧ BoxIn ls hs ss
  | _, _, _ => False

def natNums (xs : List Nat) : List Num := xs.map fun (n : Nat) => Num.fin (n : Rat)
def intNums (zs : List Int) : List Num := zs.map fun (z : Int) => Num.fin (z : Rat)

theorem clamp_component (l h s : Nat) (z : Int) (hlh : l ≤ h) (hs : h < s) :
    ∃ n : Nat, clampNum (.fin (l : Rat)) (.fin (h : Rat)) (.fin (z : Rat)) = .fin (n : Rat) ∧ n < s := by
  have e : ((max (l : Int) (min (h : Int) z)).toNat : Int) = max (l : Int) (min (h : Int) z) :=
    Int.toNat_of_nonneg (by omega)
  refine ⟨(max (l : Int) (min (h : Int) z)).toNat, ?_, by omega⟩
  rw [clampNum_eq_max_min _ _ _ (by exact_mod_cast hlh), ← Int.cast_natCast (R := ℚ) (Int.toNat _), e]
  push_cast; rfl

theorem clamp_inBox (lo hi sz : List Nat) (zs : List Int) (hb : BoxIn lo hi sz) (hl : zs.length = sz.length) :
    ∃ cs, zip3With clampNum (natNums lo) (natNums hi) (intNums zs) = C15.coordOf cs ∧ InBox sz cs := by
  fun_induction BoxIn lo hi sz generalizing zs
  case case1 => exact ⟨[], by rw [List.length_eq_zero_iff.1 hl]; rfl, trivial⟩
  case case2 l ls h hs s ss ih =>
    obtain ⟨z, zs, rfl⟩ := List.exists_cons_of_length_eq_add_one hl
    obtain ⟨n, hn, hns⟩ := clamp_component l h s z hb.1 hb.2.1
    obtain ⟨cs, hcs, hin⟩ := ih zs hb.2.2 (by simpa using hl)
    exact ⟨n :: cs, congrArg₂ List.cons hn hcs, hns, hin⟩
  case case3 => exact hb.elim

/-- **clamp_safe** for row-major array storage: with an integer box inside the extents, a lookup of
    `clamp<strided<array>>` succeeds for every integer coordinate whatsoever, touches exactly one cell, and that cell
    lies inside the storage (composition with C01: the index arithmetic at width `w` is exact and in range) -/
theorem clamp_safe_strided (cv : Conv) (w : Nat) (lo hi sz : List Nat) (zs : List Int) (cells : List (List Num))
    (hb : BoxIn lo hi sz) (hl : zs.length = sz.length) (hfit : prod sz ≤ 2^w) (hst : prod sz ≤ cells.length) :
    ∃ v i, eval cv (.clamp (.strided w .array)) (.box (natNums lo) (natNums hi) (.sized sz (.array cells))) (intNums zs)
        = .ok (v, [i]) ∧ i < cells.length := by
  obtain ⟨cs, hcs, hin⟩ := clamp_inBox lo hi sz zs hb hl
  obtain ⟨v, e, hlt⟩ := C15.layout_array_cell (stridedIdxW w sz) cells cs (C01.strided_code w sz cs hin hfit)
    (Nat.lt_of_lt_of_le (C01.strided_in_storage sz cs hin) hst)
  exact ⟨v, _, (congrArg _ hcs).trans e, hlt⟩

open Covfie.C02

theorem natNums_eq_intNums (ns : List Nat) : natNums ns = intNums (ns.map fun (n : Nat) => (n : Int)) := by
  simp [natNums, intNums]

theorem truncIdx_ok (qs : List Rat) (hq : ∀ q ∈ qs, 0 ≤ q) :
    mapE truncIdx (qs.map Num.fin) = .ok (qs.map fun q => (q.floor.toNat, q - (q.floor : Rat))) :=
  mapE_map_ok fun q h => by simp [truncIdx, hq q h]

/-- **clamp beneath an interpolator**: with the integer box inside the extents, `linear<clamp<strided<array>>>`
    succeeds for every finite real coordinate `x ≥ 0`, and every cell it reads lies inside the storage -/
theorem linear_clamp_safe (cv : Conv) (w : Nat) (lo hi sz : List Nat) (qs : List Rat) (cells : List (List Num))
    (hb : BoxIn lo hi sz) (hl : qs.length = sz.length) (hq : ∀ q ∈ qs, 0 ≤ q)
    (hfit : prod sz ≤ 2^w) (hst : prod sz ≤ cells.length) :
    ∃ v t, eval cv (.linear (.clamp (.strided w .array)))
        (.thin (.box (natNums lo) (natNums hi) (.sized sz (.array cells)))) (qs.map Num.fin) = .ok (v, t)
      ∧ ∀ i ∈ t, i < cells.length := by
  rw [eval_linear]
  refine C15.linear_safe _ _ _ (truncIdx_ok qs hq) _ fun bs hbs => ?_
  rw [addBits_eq_map]
  generalize hns : List.zipWith _ _ bs = ns
  have hlen : ns.length = sz.length := by simp [← hns, length_of_mem_corners hbs, hl]
  obtain ⟨v, i, e, hi⟩ := clamp_safe_strided cv w lo hi sz (ns.map Nat.cast) cells hb (by simpa using hlen) hfit hst
  exact ⟨v, [i], (congrArg _ (natNums_eq_intNums ns)).trans e, fun j hj => List.mem_singleton.1 hj ▸ hi⟩

end Covfie.C10
