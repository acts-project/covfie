import CovfieModel.Lemmas.Perm
/-! # C20 — Compile-time sort and permutation test are correct for all index sequences -/
namespace Covfie.C20

theorem sortSeq_perm (l : List Nat) : (sortSeq l).Perm l := (sortFuel_spec _ l (Nat.le_refl _)).1

theorem sortSeq_sorted (l : List Nat) : (sortSeq l).Pairwise (· ≤ ·) := (sortFuel_spec _ l (Nat.le_refl _)).2

theorem isPerm_iff (a b : List Nat) : isPerm a b = true ↔ a.Perm b := by
  unfold isPerm; rw [beq_iff_eq]
  constructor
  · intro h
    exact (sortSeq_perm a).symm.trans (h ▸ sortSeq_perm b)
  · intro h
    exact sorted_perm_unique (sortSeq_sorted a) (sortSeq_sorted b)
      ((sortSeq_perm a).trans (h.trans (sortSeq_perm b).symm))

/-- non-vacuity: a concrete unsorted sequence with duplicates -/
example : sortSeq [3, 1, 4, 1, 5, 9, 2, 6] = [1, 1, 2, 3, 4, 5, 6, 9] := by decide
example : isPerm [2, 0, 2, 1] [1, 2, 2, 0] = true ∧ isPerm [2, 0, 2, 1] [1, 2, 0, 0] = false := by decide

end Covfie.C20
