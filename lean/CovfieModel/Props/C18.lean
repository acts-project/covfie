import CovfieModel.Lemmas.Numeric
/-! # C18 — Power-of-two rounding and integer power are exact (every unsigned width w) -/
namespace Covfie.C18

/-- `round_pow2` returns the least power of two not below `i`, for every `1 ≤ i ≤ 2^(w-1)` (also for `i = 0`, giving 1). -/
theorem roundPow2_spec (w i : Nat) (hw : 1 ≤ w) (hi : i ≤ 2^(w-1)) :
    ∃ r, roundPow2 w i = some (2^r) ∧ i ≤ 2^r ∧ ∀ m, i ≤ 2^m → 2^r ≤ 2^m := by
  obtain ⟨r, e, h1, h2, _⟩ := roundPow2_spec' w i hw hi
  exact ⟨r, e, h1, fun m hm => Nat.pow_le_pow_right (by omega) (h2 m hm)⟩

/-- Domain note (termination as a finding): for `2^(w-1) < i` the doubling wraps to 0 and the loop never terminates. -/
theorem roundPow2_diverges (w i : Nat) (hw : 1 ≤ w) (hi : 2^(w-1) < i) (fuel : Nat) :
    rp2Loop w i fuel (1 % 2^w) = none := by
  rw [Nat.one_mod_two_pow hw]
  exact rp2Loop_diverges w i hw hi fuel 0 (Nat.zero_le _)

/-- `ipow` returns `b^e` modulo `2^w`, for all `b` and `e`. -/
theorem ipow_spec (w b e : Nat) : ipow w b e = b^e % 2^w := by
  rw [ipow, ← Nat.mod_eq_of_lt (ipowLoop_lt w (e+1) _ b e (Nat.mod_lt _ (Nat.two_pow_pos w))),
    ipowLoop_spec w (e+1) _ b e (Nat.lt_succ_self e), Nat.mod_mul_mod, Nat.one_mul]

example : roundPow2 8 128 = some 128 ∧ roundPow2 8 100 = some 128 ∧ roundPow2 8 129 = none := by decide
example : ipow 8 3 5 = 243 ∧ ipow 8 2 8 = 0 ∧ ipow 16 7 9 = 7^9 % 65536 := by decide
end Covfie.C18
