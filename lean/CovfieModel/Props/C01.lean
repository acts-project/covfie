import CovfieModel.Lemmas.Strided
import CovfieModel.Lemmas.NdMap
import CovfieModel.Lemmas.Morton
import CovfieModel.Lemmas.Hilbert
import CovfieModel.Lemmas.Storage
import CovfieModel.Props.C18
/-! # C01 — Storage-order layers behave as an N-dimensional array -/
namespace Covfie.C01

theorem strided_in_storage (sz c : List Nat) (h : InBox sz c) : stridedIdx sz c < prod sz := strided_lt sz c h
theorem strided_no_alias (sz c c' : List Nat) (h : InBox sz c) (h' : InBox sz c')
    (e : stridedIdx sz c = stridedIdx sz c') : c = c' := strided_inj sz c c' h h' e
/-- for `size_t`, `unsigned` and (within half the range) `int` coordinates alike -/
theorem strided_code (w : Nat) (sz c : List Nat) (h : InBox sz c) (hfit : prod sz ≤ 2^w) :
    stridedIdxW w sz c = stridedIdx sz c := strided_nowrap w sz c h hfit

/-! ## Morton (portable loop; the BMI2 path is equal to it by C14) -/
theorem morton_in_storage (sz c : List Nat) (k : Nat) (h : InBox sz c) (hN : 0 < sz.length)
    (hk : ∀ s ∈ sz, s ≤ 2^k) : mortonLoop c < 2^(k * sz.length) := by
  have hl := InBox_length sz c h
  rw [← hl]
  exact mortonLoop_lt c k (by omega) (inBox_getD_lt sz c h _ hk)

theorem morton_no_alias (sz c c' : List Nat) (h : InBox sz c) (h' : InBox sz c') (hN : 0 < sz.length)
    (hk : ∀ s ∈ sz, s ≤ 2^(64 / sz.length)) (e : mortonLoop c = mortonLoop c') : c = c' := by
  have hl := InBox_length sz c h
  have hl' := InBox_length sz c' h'
  apply mortonLoop_inj c c' (by omega) (by omega) _ _ e
  · rw [hl]; intro j hj; exact inBox_getD_lt sz c h _ hk j (by omega)
  · rw [hl']; intro j hj; exact inBox_getD_lt sz c' h' _ hk j (by omega)

/-- the storage allocated by the converting constructor, `ipow(round_pow2(max extent), N)`, covers every index -/
theorem morton_alloc_covers (sz c : List Nat) (h : InBox sz c) (hN : 0 < sz.length)
    (r : Nat) (hr : roundPow2 64 (sz.foldl max 0) = some (2^r)) (hmax : ∀ s ∈ sz, s ≤ 2^r)
    (hfit : r * sz.length < 64) : mortonLoop c < curveLen sz := by
  have : curveLen sz = 2^(r * sz.length) := by
    unfold curveLen
    rw [hr, Option.getD_some, C18.ipow_spec, ← Nat.pow_mul]
    exact Nat.mod_eq_of_lt (Nat.pow_lt_pow_right (by omega) hfit)
  rw [this]
  exact morton_in_storage sz c r h hN hmax

/-! ## Hilbert (two dimensions, any extents: square or not, power of two or not) -/
theorem hilbert_in_storage (sx sy x y k : Nat) (hk : hilN sx sy = 2^k) (hk63 : k ≤ 63)
    (hx : x < sx) (hy : y < sy) (hsx : sx ≤ 2^k) (hsy : sy ≤ 2^k) :
    hilbertIdx [sx, sy] [x, y] < 4^k := by
  rw [hilbertIdx_eq sx sy x y k hk hk63 (by omega) (by omega)]
  exact hilR_lt k x y

theorem hilbert_no_alias (sx sy x y x' y' k : Nat) (hk : hilN sx sy = 2^k) (hk63 : k ≤ 63)
    (hsx : sx ≤ 2^k) (hsy : sy ≤ 2^k) (hx : x < sx) (hy : y < sy) (hx' : x' < sx) (hy' : y' < sy)
    (e : hilbertIdx [sx, sy] [x, y] = hilbertIdx [sx, sy] [x', y']) : x = x' ∧ y = y' := by
  rw [hilbertIdx_eq sx sy x y k hk hk63 (by omega) (by omega),
      hilbertIdx_eq sx sy x' y' k hk hk63 (by omega) (by omega)] at e
  exact hilR_inj k x y x' y' (by omega) (by omega) (by omega) (by omega) e

/-! ## Array semantics through any injective, in-range index function -/
variable {α : Type}
/-- a value written at an in-range coordinate is the value read back there … -/
theorem read_own_write (idx : List Nat → Nat) (st : Store α) (c : List Nat) (v : α)
    (hin : idx c < st.cells.length) :
    ∃ st', st.write (idx c) v = some st' ∧ st'.read (idx c) = some v := by
  obtain ⟨st', h, _⟩ := Store.write_some st (idx c) v hin
  exact ⟨st', h, Store.read_write_same st st' _ v h⟩
/-- … and a write at one coordinate never changes what is read at any other in-range coordinate. -/
theorem write_frame (idx : List Nat → Nat) (Box : List Nat → Prop)
    (hinj : ∀ c c', Box c → Box c' → idx c = idx c' → c = c')
    (st st' : Store α) (c c' : List Nat) (v : α) (hc : Box c) (hc' : Box c') (hne : c ≠ c')
    (h : st.write (idx c) v = some st') : st'.read (idx c') = st.read (idx c') :=
  Store.read_write_other st st' _ _ v h (fun e => hne (hinj c c' hc hc' e))

example : InBox [3, 5] [2, 4] ∧ stridedIdx [3, 5] [2, 4] = 14 ∧ mortonLoop [2, 4] = 0b100100 ∧
    hilbertIdx [3, 5] [2, 4] = hilR 3 2 4 := by decide
end Covfie.C01
