import CovfieModel.Model.Stack
import CovfieModel.Model.StackConv
import CovfieModel.Lemmas.Stack
import CovfieModel.Props.C11
/-! # C02 — A stack's lookup is the composition of its layers' maps; a layer never depends on what lies beneath -/
namespace Covfie.C02

/-! ## Locality: if two backends agree on the coordinates a layer queries, the layered lookups agree.
    Stated for an arbitrary function beneath — no assumption on which layers it is made of. -/
theorem clamp_local (lo hi : List Num) (b₁ b₂ : Backend) (c : List Num)
    (h : b₁ (zip3With clampNum lo hi c) = b₂ (zip3With clampNum lo hi c)) :
    clampL lo hi b₁ c = clampL lo hi b₂ c := h
theorem backup_local (lo hi df : List Num) (b₁ b₂ : Backend) (c : List Num)
    (h : outside lo hi c = false → b₁ c = b₂ c) : backupL lo hi df b₁ c = backupL lo hi df b₂ c := by
  unfold backupL; cases ho : outside lo hi c <;> simp [h, ho]
theorem shuffle_local (p : List Nat) (b₁ b₂ : Backend) (c : List Num)
    (h : b₁ (p.map fun i => c.getD i .nan) = b₂ (p.map fun i => c.getD i .nan)) :
    shuffleL p b₁ c = shuffleL p b₂ c := h
theorem cast_local (conv : Conv) (b₁ b₂ : Backend) (c : List Num) (h : b₁ c = b₂ c) :
    castL conv b₁ c = castL conv b₂ c := by unfold castL; rw [h]
theorem deref_local (b₁ b₂ : Backend) (c : List Num) (h : b₁ c = b₂ c) : derefL b₁ c = derefL b₂ c := h
theorem affine_local (m : List (List Rat)) (b₁ b₂ : Backend) (c : List Num)
    (h : ∀ x, mapO finOf c = some x → b₁ (m.map fun row => .fin (affineRow row x)) = b₂ (m.map fun row => .fin (affineRow row x))) :
    affineL m b₁ c = affineL m b₂ c := by
  unfold affineL; cases hx : mapO finOf c with
  | none => rfl
  | some x => exact h x hx
theorem nn_local (b₁ b₂ : Backend) (c : List Num) (h : ∀ nc, mapE lrintIdx c = .ok nc → b₁ nc = b₂ nc) :
    nnL b₁ c = nnL b₂ c := by
  unfold nnL; cases hx : mapE lrintIdx c with
  | error e => rfl
  | ok nc => exact h nc hx
theorem layout_local (idx : List Nat → Nat) (b₁ b₂ : Backend) (c : List Num)
    (h : ∀ cs, mapE natOf c = .ok cs → b₁ [.fin (idx cs : Nat)] = b₂ [.fin (idx cs : Nat)]) :
    layoutL idx b₁ c = layoutL idx b₂ c := by
  unfold layoutL; cases hx : mapE natOf c with
  | error e => rfl
  | ok cs => exact h cs hx
theorem linear_local (b₁ b₂ : Backend) (c : List Num)
    (h : ∀ parts bs, mapE truncIdx c = .ok parts → bs ∈ corners c.length →
      b₁ (addBits (parts.map (·.1)) bs) = b₂ (addBits (parts.map (·.1)) bs)) :
    linearL b₁ c = linearL b₂ c := by
  cases hp : mapE truncIdx c with
  | error e => simp only [linearL, hp]
  | ok parts =>
    exact linearL_congr hp (mapE_congr fun bs hbs => by simp only [cornerQuery, h parts bs hp hbs])

/-! ## One-line definitions, for every input dimensionality N and output dimensionality M independently -/
theorem shuffle_def (p : List Nat) (b : Backend) (c : List Num) :
    shuffleL p b c = b (p.map fun i => c.getD i .nan) := rfl
theorem cast_def (conv : Conv) (b : Backend) (c v v' : List Num) (t : List Nat)
    (hb : b c = .ok (v, t)) (hc : mapE conv v = .ok v') : castL conv b c = .ok (v', t) :=
  castL_eq_ok.2 ⟨v, hb, hc⟩
theorem cast_length (conv : Conv) (b : Backend) (c v v' : List Num) (t t' : List Nat)
    (hb : b c = .ok (v, t)) (h : castL conv b c = .ok (v', t')) : v'.length = v.length ∧ t' = t := by
  obtain ⟨v₀, h₀, hm⟩ := castL_eq_ok.1 h
  obtain ⟨rfl, rfl⟩ := Prod.mk.inj (Except.ok.inj (hb.symm.trans h₀))
  exact ⟨mapE_length hm, rfl⟩
theorem constant_def (v c : List Num) : constantB v c = .ok (v, []) := rfl
theorem identity_def (c : List Num) : identityB c = .ok (c, []) := rfl
theorem deref_def (b : Backend) (c : List Num) : derefL b c = b c := rfl
theorem clamp_def (lo hi : List Num) (b : Backend) (c : List Num) :
    clampL lo hi b c = b (zip3With clampNum lo hi c) := rfl

/-! ## The lookup of a stack is the composition of its layers' maps (each equation holds by definition) -/
theorem eval_clamp (cv : Conv) (b : Stack) (lo hi : List Num) (d : Data) :
    eval cv (.clamp b) (.box lo hi d) = clampL lo hi (eval cv b d) := rfl
theorem eval_backup (cv : Conv) (b : Stack) (lo hi df : List Num) (d : Data) :
    eval cv (.backup b) (.boxd lo hi df d) = backupL lo hi df (eval cv b d) := rfl
theorem eval_affine (cv : Conv) (b : Stack) (m : List (List Rat)) (d : Data) :
    eval cv (.affine b) (.aff m d) = affineL m (eval cv b d) := rfl
theorem eval_shuffle (cv : Conv) (p : List Nat) (b : Stack) (d : Data) :
    eval cv (.shuffle p b) (.thin d) = shuffleL p (eval cv b d) := rfl
theorem eval_cast (cv : Conv) (b : Stack) (d : Data) : eval cv (.cast b) (.thin d) = castL cv (eval cv b d) := rfl
theorem eval_deref (cv : Conv) (b : Stack) (d : Data) : eval cv (.deref b) (.thin d) = derefL (eval cv b d) := rfl
theorem eval_nn (cv : Conv) (b : Stack) (d : Data) : eval cv (.nn b) (.thin d) = nnL (eval cv b d) := rfl
theorem eval_linear (cv : Conv) (b : Stack) (d : Data) : eval cv (.linear b) (.thin d) = linearL (eval cv b d) := rfl
theorem eval_strided (cv : Conv) (w : Nat) (b : Stack) (sz : List Nat) (d : Data) :
    eval cv (.strided w b) (.sized sz d) = layoutL (stridedIdxW w sz) (eval cv b d) := rfl

/-- example: a depth-4 stack with N = 2 inputs and M = 3 outputs evaluates through every layer -/
def exStack : Stack := .clamp (.shuffle [1, 0] (.strided 64 .array))
def exData : Data := .box [.fin 0, .fin 0] [.fin 1, .fin 2]
  (.thin (.sized [3, 2] (.array ((List.range 6).map fun (i : Nat) => [Num.fin (i : Rat), Num.fin ((10 * i : Nat) : Rat), Num.fin ((100 * i : Nat) : Rat)]))))
#guard (eval (fun x => .ok x) exStack exData [.fin 7, .fin 2]) matches .ok ([.fin 5, .fin 50, .fin 500], [5])

/-! ## One conversion per cast layer (what the correspondence driver evaluates) -/

theorem evalN_const (cv : Conv) (s : Stack) : ∀ (k : Nat) (d : Data), evalN (fun _ => cv) k s d = eval cv s d := by
  intro k d
  -- along the definition of `evalN`: the primitive backends, the misfits (both sides are the arity error), the layers
  fun_induction evalN (fun _ => cv) k s d
  case case1 | case2 | case3 => rfl
  case case16 => rw [eval.eq_16] <;> assumption
  all_goals exact congrArg _ ‹_›

theorem evalN_cast (cv : Nat → Conv) (k : Nat) (b : Stack) (d : Data) :
    evalN cv k (.cast b) (.thin d) = castL (cv k) (evalN cv (k + 1) b d) := rfl

/-! ## Dimensions: N inputs, M outputs, independently -/

/-- dimensions of a stack over its data: `N` input components, `M` output components (the dimensional part of the
    kind rules: a storage order feeds one flat index to what lies beneath, boxes have `N` components, a default has `M`) -/
def Dims : Stack → Data → Nat → Nat → Prop
  | .array, .array cells, N, M => N = 1 ∧ ∀ v ∈ cells, v.length = M
  | .constant, .constant v, _, M => v.length = M
  | .identity, .identity, N, M => N = M
  | .strided _ b, .sized _ d, _, M => Dims b d 1 M
  | .mortonT b, .sized _ d, _, M => Dims b d 1 M
  | .mortonF b, .sized _ d, _, M => Dims b d 1 M
  | .hilbert b, .sized _ d, _, M => Dims b d 1 M
  | .clamp b, .box lo hi d, N, M => lo.length = N ∧ hi.length = N ∧ Dims b d N M
  | .backup b, .boxd _ _ df d, N, M => df.length = M ∧ Dims b d N M
  | .affine b, .aff m d, N, M => m.length = N ∧ Dims b d N M
  | .shuffle p b, .thin d, N, M => p.length = N ∧ Dims b d N M
  | .cast b, .thin d, N, M => Dims b d N M
  | .deref b, .thin d, N, M => Dims b d N M
  | .nn b, .thin d, N, M => Dims b d N M
  | .linear b, .thin d, N, M => Dims b d N M
  | _, _, _, _ => False

/-- kind soundness, dimensional part: a successful lookup with `N` coordinate components returns `M` value components,
    for every `N` and `M` independently -/
theorem eval_length (cv : Conv) (s : Stack) : ∀ (d : Data) (N M : Nat) (c v : List Num) (t : List Nat),
    Dims s d N M → c.length = N → eval cv s d c = .ok (v, t) → v.length = M := by
  intro d N M c v t hd hc h
  -- along the definition of `Dims`, its cases in order; where stack and data do not fit it is `False`
  fun_induction Dims s d N M generalizing c v t
  case case1 =>
    obtain ⟨i, -, hi, -⟩ := arrayB_eq_ok.1 h
    exact hd.2 v (List.mem_of_getElem? hi)
  case case2 => cases h; exact hd
  case case3 => cases h; exact hc.trans hd
  case case4 ih | case5 ih | case6 ih | case7 ih =>
    obtain ⟨cs, -, hq⟩ := layoutL_eq_ok.1 h
    exact ih _ v t hd rfl hq
  case case8 ih => exact ih _ v t hd.2.2 (by simp [zip3With_length, hd.1, hd.2.1, hc]) h
  case case9 ih =>
    cases ho : outside _ _ c with
    | true => rw [eval_backup, C11.backup_outside _ _ _ _ _ ho] at h; cases h; exact hd.1
    | false => rw [eval_backup, C11.backup_inside _ _ _ _ _ ho] at h; exact ih c v t hd.2 hc h
  case case10 ih =>
    obtain ⟨x, -, hq⟩ := affineL_eq_ok.1 h
    exact ih _ v t hd.2 (by simp [hd.1]) hq
  case case11 ih => exact ih _ v t hd.2 (by simp [hd.1]) h
  case case12 ih =>
    obtain ⟨v₀, hq, hm⟩ := castL_eq_ok.1 h
    rw [mapE_length hm]; exact ih c v₀ t hd hc hq
  case case13 ih => exact ih c v t hd hc h
  case case14 ih =>
    obtain ⟨nc, hn, hq⟩ := nnL_eq_ok.1 h
    exact ih nc v t hd ((mapE_length hn).trans hc) hq
  case case15 ih =>
    obtain ⟨parts, rs, hp, hrs, -, hv⟩ := linearL_of_ok h
    refine hv _ fun r hr => ?_
    obtain ⟨bs, hbs, hq⟩ := mapE_mem hrs hr
    refine ih _ _ r.2.2 hd (addBits_length ?_ ?_) (cornerQuery_eq_ok.1 hq).1
    · rw [List.length_map, mapE_length hp, hc]
    · rw [length_of_mem_corners hbs, hc]
  case case16 => exact hd.elim

end Covfie.C02
