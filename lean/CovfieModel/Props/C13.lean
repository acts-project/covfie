import CovfieModel.Model.Kinds
/-! # C13 — Every well-kinded composition supports the whole field API (kind model; the C++ type checker is
    tied in by the compile matrix, `harness/props/c13.py`, through the `kindcheck` driver) -/
namespace Covfie.C13
open Covfie.Kinds

/-- compositionality, for every layer: kind and lookup verdict of `L b` depend on `b` only through `kind b`, `lookupErr b` -/
theorem analyse_compositional (outer outer' b b' : KStack)
    (h : analyse outer = step outer (analyse b)) (h' : analyse outer' = step outer' (analyse b'))
    (hk : layerKind outer = layerKind outer') (hl : layerLookup outer = layerLookup outer')
    (e1 : kind b = kind b') (e2 : lookupErr b = lookupErr b') : analyse outer = analyse outer' := by
  have : analyse b = analyse b' := Prod.ext e1 e2
  rw [h, h', this]; unfold step; rw [hk, hl]

theorem wellKinded_iff (s : KStack) : wellKinded s = true ↔ (∃ k, kind s = .ok k) ∧ lookupErr s = none := by
  unfold wellKinded
  cases hk : kind s <;> cases hl : lookupErr s <;> simp

/-- the specification of compatibility is met by the mechanism -/
theorem compatible_conv (d s : KStack) (h : compatible d s = true) : conv d s = true := by
  fun_induction compatible d s with
  | case1 =>
    simp only [Bool.and_eq_true, decide_eq_true_eq] at h
    simp [conv, h.1.1]
  | case2 _ _ _ b _ _ _ b' ih =>
    simp only [Bool.and_eq_true] at h
    simp [conv, ih h.2]
  | case3 b b' ih =>
    simp only [Bool.and_eq_true] at h
    simp [conv, h.1, ih h.2]
  | case4 => cases h

theorem compatible_convertible (d s : KStack) (h : compatible d s = true) : convertible d s = true := by
  unfold convertible; simp [compatible_conv d s h]

theorem supports_at (s : KStack) : supports s .at = (viewFits s && wellKinded s) := by
  unfold supports wellKinded
  cases kind s with
  | error e => exact (Bool.and_false _).symm
  | ok k => cases lookupErr s <;> rfl

/-- **every well-kinded stack whose view fits supports every API operation the property claims for it** -/
theorem wellKinded_supports (s : KStack) (h : wellKinded s = true) (hv : viewFits s = true) (op : ApiOp)
    (ha : applicable s op = true) : supports s op = true := by
  obtain ⟨⟨k, hk⟩, hl⟩ := (wellKinded_iff s).mp h
  unfold supports; rw [hk]
  cases op with
  | view => exact hv
  | «at» => simp [hv, hl]
  | convertFrom src =>
    obtain ⟨hs, hc⟩ := Bool.and_eq_true_iff.mp ha
    simp [hs, compatible_convertible s src hc]
  | _ => rfl

theorem declared_violation_rejects_all (s : KStack) (e : KindErr) (h : kind s = .error e) (op : ApiOp) :
    supports s op = false := by
  unfold supports; rw [h]

/-- **ill-kinded compositions are rejected**: no program can look a value up through one -/
theorem illKinded_rejected (s : KStack) (h : wellKinded s = false) : supports s .at = false := by
  rw [supports_at, h, Bool.and_false]

theorem viewTooLarge_rejected (s : KStack) (h : viewFits s = false) : supports s .view = false ∧ supports s .at = false := by
  unfold supports; cases kind s <;> simp [h]

theorem analyse_layout (l : Lay) (a : SK) (n : Nat) (b : KStack) : analyse (.layout l a n b) = step (.layout l a n b) (analyse b) := rfl
theorem analyse_clamp (b : KStack) : analyse (.clamp b) = step (.clamp b) (analyse b) := rfl
theorem analyse_backup (b : KStack) : analyse (.backup b) = step (.backup b) (analyse b) := rfl
theorem analyse_affine (b : KStack) : analyse (.affine b) = step (.affine b) (analyse b) := rfl
theorem analyse_shuffle (p : List Nat) (b : KStack) : analyse (.shuffle p b) = step (.shuffle p b) (analyse b) := rfl
theorem analyse_cast (t : SK) (b : KStack) : analyse (.cast t b) = step (.cast t b) (analyse b) := rfl
theorem analyse_deref (b : KStack) : analyse (.deref b) = step (.deref b) (analyse b) := rfl
theorem analyse_interp (i : Itp) (a : SK) (n : Nat) (b : KStack) : analyse (.interp i a n b) = step (.interp i a n b) (analyse b) := rfl

def sub : KStack → Option KStack
  | .layout _ _ _ b | .clamp b | .backup b | .affine b | .shuffle _ b | .cast _ b | .deref b | .interp _ _ _ b => some b
  | _ => none

theorem analyse_sub (s b : KStack) (h : sub s = some b) : analyse s = step s (analyse b) := by
  cases s <;> cases h <;> rfl

/-- **compositionality for every layer constructor**: the declared kind of a layered stack is the layer's rule applied
    to the kind of the stack beneath -/
theorem kind_compositional (s b : KStack) (h : sub s = some b) :
    kind s = match kind b with | .error e => .error e | .ok k => layerKind s k := by
  unfold kind; rw [analyse_sub s b h]; unfold step; cases (analyse b).1 <;> rfl

theorem kind_congr_layout (l : Lay) (a : SK) (n : Nat) (b b' : KStack) (e1 : kind b = kind b') (e2 : lookupErr b = lookupErr b') :
    analyse (.layout l a n b) = analyse (.layout l a n b') :=
  analyse_compositional _ _ b b' rfl rfl rfl rfl e1 e2
theorem kind_congr_interp (i : Itp) (a : SK) (n : Nat) (b b' : KStack) (e1 : kind b = kind b') (e2 : lookupErr b = lookupErr b') :
    analyse (.interp i a n b) = analyse (.interp i a n b') :=
  analyse_compositional _ _ b b' rfl rfl rfl (by cases i <;> rfl) e1 e2
theorem kind_congr_clamp (b b' : KStack) (e1 : kind b = kind b') (e2 : lookupErr b = lookupErr b') : analyse (.clamp b) = analyse (.clamp b') :=
  analyse_compositional _ _ b b' rfl rfl rfl rfl e1 e2
theorem kind_congr_backup (b b' : KStack) (e1 : kind b = kind b') (e2 : lookupErr b = lookupErr b') : analyse (.backup b) = analyse (.backup b') :=
  analyse_compositional _ _ b b' rfl rfl rfl rfl e1 e2
theorem kind_congr_affine (b b' : KStack) (e1 : kind b = kind b') (e2 : lookupErr b = lookupErr b') : analyse (.affine b) = analyse (.affine b') :=
  analyse_compositional _ _ b b' rfl rfl rfl rfl e1 e2
theorem kind_congr_shuffle (p : List Nat) (b b' : KStack) (e1 : kind b = kind b') (e2 : lookupErr b = lookupErr b') :
    analyse (.shuffle p b) = analyse (.shuffle p b') :=
  analyse_compositional _ _ b b' rfl rfl rfl rfl e1 e2
theorem kind_congr_cast (t : SK) (b b' : KStack) (e1 : kind b = kind b') (e2 : lookupErr b = lookupErr b') : analyse (.cast t b) = analyse (.cast t b') :=
  analyse_compositional _ _ b b' rfl rfl rfl rfl e1 e2
theorem kind_congr_deref (b b' : KStack) (e1 : kind b = kind b') (e2 : lookupErr b = lookupErr b') : analyse (.deref b) = analyse (.deref b') :=
  analyse_compositional _ _ b b' rfl rfl rfl rfl e1 e2

theorem kind_sub (s b : KStack) (k : Kind) (hs : sub s = some b) (h : kind s = .ok k) : ∃ kb, kind b = .ok kb := by
  rw [kind_compositional s b hs] at h
  cases hb : kind b with
  | error e => rw [hb] at h; simp at h
  | ok kb => exact ⟨kb, rfl⟩
theorem lookupErr_sub (s b : KStack) (hs : sub s = some b) (h : lookupErr s = none) : lookupErr b = none := by
  unfold lookupErr at h ⊢
  rw [analyse_sub s b hs] at h; unfold step at h
  cases h1 : (analyse b).1 <;> rw [h1] at h
  · exact h
  · cases h2 : (analyse b).2 with
    | none => rfl
    | some e => rw [h2] at h; cases h
theorem wellKinded_sub (s b : KStack) (hs : sub s = some b) (h : wellKinded s = true) : wellKinded b = true := by
  obtain ⟨⟨k, hk⟩, hl⟩ := (wellKinded_iff s).mp h
  exact (wellKinded_iff b).mpr ⟨kind_sub s b k hs hk, lookupErr_sub s b hs hl⟩

theorem supports_kind (s : KStack) (op : ApiOp) (h : supports s op = true) : ∃ k, kind s = .ok k := by
  cases hk : kind s with
  | ok k => exact ⟨k, rfl⟩
  | error e => rw [declared_violation_rejects_all s e hk] at h; cases h

theorem supports_concept_of_any (s : KStack) (op : ApiOp) (h : supports s op = true) : supports s .concept = true := by
  obtain ⟨k, hk⟩ := supports_kind s op h
  unfold supports; rw [hk]
theorem supports_view_of_at (s : KStack) (h : supports s .at = true) : supports s .view = true := by
  obtain ⟨k, hk⟩ := supports_kind s _ h
  unfold supports at h ⊢; rw [hk] at h ⊢
  exact (Bool.and_eq_true_iff.mp h).1
theorem supports_at_wellKinded (s : KStack) (h : supports s .at = true) : wellKinded s = true :=
  (Bool.and_eq_true_iff.mp ((supports_at s).symm.trans h)).2
theorem supports_convert_src (s src : KStack) (h : supports s (.convertFrom src) = true) : wellKinded src = true := by
  obtain ⟨k, hk⟩ := supports_kind s _ h
  unfold supports at h; rw [hk] at h
  exact (Bool.and_eq_true_iff.mp h).1
theorem inputEq_symm (b b' : KStack) (h : inputEq b b' = true) : inputEq b' b = true := by
  unfold inputEq at h ⊢
  split at h
  · rename_i k k' hk hk'
    rw [hk, hk']
    simp only [decide_eq_true_eq] at h ⊢
    exact ⟨h.1.symm, h.2.symm⟩
  · cases h
theorem compatible_symm_of (d s : KStack) (h : compatible d s = true) : compatible s d = true := by
  fun_induction compatible d s with
  | case1 =>
    simp only [Bool.and_eq_true, decide_eq_true_eq] at h
    obtain ⟨⟨⟨rfl, rfl⟩, rfl⟩, rfl⟩ := h
    simp [compatible]
  | case2 _ _ _ b _ _ _ b' ih =>
    simp only [Bool.and_eq_true, decide_eq_true_eq] at h
    simp [compatible, h.1, ih h.2]
  | case3 b b' ih =>
    simp only [Bool.and_eq_true] at h
    simp [compatible, inputEq_symm _ _ h.1, ih h.2]
  | case4 => cases h
/-- compatibility is symmetric (a conversion claimed one way is claimed back: C05 `convert_back`) -/
theorem compatible_symm : ∀ (d s : KStack), compatible d s = compatible s d :=
  fun d s => Bool.eq_iff_iff.mpr ⟨compatible_symm_of d s, compatible_symm_of s d⟩

/-- a layer's declared rule is a chain of guards: a kind comes out only if none of them fired -/
theorem guard_ok {c : Prop} [Decidable c] {e : KindErr} {x : Except KindErr Kind} {k : Kind}
    (h : (if c then .error e else x) = .ok k) : ¬c ∧ x = .ok k := by
  by_cases hc : c
  · rw [if_pos hc] at h; cases h
  · rw [if_neg hc] at h; exact ⟨hc, h⟩

theorem interp_dims (i : Itp) (a : SK) (n : Nat) (b : KStack) (kb k : Kind) (hb : kind b = .ok kb)
    (h : kind (.interp i a n b) = .ok k) : k.inDim = kb.inDim ∧ k.outDim = kb.outDim ∧ k.inSk = a ∧ a.isFloat = true := by
  rw [kind_compositional _ b rfl, hb] at h; simp only [layerKind] at h
  obtain ⟨_, h⟩ := guard_ok h
  obtain ⟨h2, h⟩ := guard_ok h
  obtain ⟨_, h⟩ := guard_ok h
  obtain ⟨h4, h⟩ := guard_ok h
  cases h
  exact ⟨Decidable.not_not.mp h4, rfl, rfl, by simpa using h2⟩
theorem cast_dims (t : SK) (b : KStack) (kb k : Kind) (hb : kind b = .ok kb) (h : kind (.cast t b) = .ok k) :
    k.inDim = kb.inDim ∧ k.outDim = kb.outDim ∧ k.outSk = t := by
  rw [kind_compositional _ b rfl, hb] at h
  cases h
  exact ⟨rfl, rfl, rfl⟩
theorem layout_dims (l : Lay) (a : SK) (n : Nat) (b : KStack) (kb k : Kind) (hb : kind b = .ok kb)
    (h : kind (.layout l a n b) = .ok k) : k.inDim = n ∧ 0 < n ∧ k.outDim = kb.outDim ∧ (l = .hilbert → n = 2) := by
  rw [kind_compositional _ b rfl, hb] at h; simp only [layerKind] at h
  obtain ⟨h1, h⟩ := guard_ok h
  obtain ⟨h2, h⟩ := guard_ok h
  cases h
  exact ⟨rfl, Nat.pos_of_ne_zero h1, rfl, fun hl => Decidable.not_not.mp fun ne => h2 ⟨hl, ne⟩⟩

/-- a storage order directly over memory is always within the documented kinds … -/
theorem stated_layout_array (l : Lay) (a : SK) (n : Nat) (s : SK) (m : Nat) : stated (.layout l a n (.array s m)) = true := by
  simp only [stated, kind, analyse]
  by_cases hm : m = 0 <;> simp [hm, SK.isFloat]
/-- … wrappers other than storage orders never change it … -/
theorem stated_wrapper (b : KStack) (p : List Nat) (t : SK) (i : Itp) (a : SK) (n : Nat) :
    stated (.clamp b) = stated b ∧ stated (.backup b) = stated b ∧ stated (.affine b) = stated b ∧
    stated (.shuffle p b) = stated b ∧ stated (.cast t b) = stated b ∧ stated (.deref b) = stated b ∧
    stated (.interp i a n b) = stated b := ⟨rfl, rfl, rfl, rfl, rfl, rfl, rfl⟩
/-- … and a storage order over a float-indexed interpolator is outside them -/
theorem unstated_layout_over_interp (l : Lay) (a : SK) (n : Nat) (i : Itp) (c : SK) (b : KStack) (k : Kind)
    (h : kind (.interp i c 1 b) = .ok k) : stated (.layout l a n (.interp i c 1 b)) = false := by
  obtain ⟨kb, hb⟩ := kind_sub _ b k rfl h
  obtain ⟨_, _, hk, ha⟩ := interp_dims i c 1 b kb k hb h
  simp [stated, h, hk, ha]
example : stated (.layout .mortonT .u64 3 (.interp .linear .f32 1 (.array .f32 3))) = false := by decide

-- the ATLAS-like stack of the test suite and measured view sizes (tests of the model, compared with sizeof by the harness)
def atlas : KStack := .affine (.interp .linear .f32 3 (.layout .strided .u64 3 (.array .f32 3)))
example : kind atlas = .ok ⟨.f32, 3, false, .f32, 3, false⟩ := by rfl
example : wellKinded atlas = true := by rfl
example : stated atlas = true := by decide
example : viewSize atlas = .ok (88, 8) := by rfl
example : viewSize (.backup (.layout .strided .u64 3 (.array .f32 3))) = .ok (104, 8) := by rfl
example : kind (.layout .hilbert .u64 3 (.array .f32 1)) = .error .hilbertNeeds2D := by rfl
example : kind (.interp .linear .f32 3 (.identity .u64 3)) = .error .linearNeedsFloatValues := by rfl
example : kind (.interp .nn .f32 2 (.layout .strided .u64 3 (.array .f32 3))) = .error .interpDimMismatch := by rfl
example : wellKinded (.clamp (.array .f32 3)) = false ∧ supports (.clamp (.array .f32 3)) .dump = true := by decide
example : lookupErr (.shuffle [0, 1] (.layout .strided .u64 3 (.array .f32 3))) = some .shuffleArity := by rfl
example : supports (.layout .strided .u32 2 (.array .f32 3)) (.convertFrom (.layout .mortonF .u32 2 (.array .f32 3))) = true := by decide
example : supports (.layout .strided .u32 2 (.array .f32 3)) (.convertFrom (.layout .mortonF .u64 2 (.array .f32 3))) = false := by decide
example : supports (.layout .mortonT .u64 2 (.array .f32 3)) (.convertFrom (.layout .mortonF .u64 2 (.array .f32 3))) = true := by decide
example : applicable atlas (.convertFrom (.affine (.interp .nn .f32 3 (.layout .mortonF .u64 3 (.array .f32 3))))) = true := by decide
end Covfie.C13
