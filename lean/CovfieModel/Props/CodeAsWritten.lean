import CovfieModel.Props.Translated
import CovfieModel.Props.TranslatedHilbert
import CovfieModel.Props.TranslatedAlg
import CovfieModel.Props.C18
import CovfieModel.Props.C14
import CovfieModel.Props.C09
import CovfieModel.Lemmas.NdMap
/-! # Properties of the kernels *as they are written in the source*

Each statement below composes a translation theorem (`*_translated`: the term the kernel translator produces from the C++
text, executed, is the model function) with the property theorem about the model function. What results speaks about the
execution of the code text under the semantics `Covfie.Imp.exec` / `Covfie.RImp.exec`, for every input. -/
namespace Covfie.Code
open Covfie.Imp

/-- C18: `round_pow2` as written returns the least power of two not below `i`, for every width and every `i ≤ 2^(w-1)`. -/
theorem round_pow2_least (w i r0 j0 : Nat) (hw : 1 ≤ w) (hi : i ≤ 2^(w-1)) :
    ∃ r, exec w (w+1) Ref.round_pow2 ⟨[i, r0, j0], []⟩ = some ⟨[i, 2^r, 2^r], []⟩ ∧ i ≤ 2^r ∧ ∀ m, i ≤ 2^m → 2^r ≤ 2^m := by
  obtain ⟨r, e, h1, h2⟩ := Covfie.C18.roundPow2_spec w i hw hi
  exact ⟨r, by rw [round_pow2_translated w i r0 j0 (by omega), e]; rfl, h1, h2⟩

/-- C18: beyond that domain the loop as written is still running after the `w + 1` passes that are enough inside it (and, by
`round_pow2_exec` and `Covfie.C18.roundPow2_diverges`, after any number of passes: it never terminates). -/
theorem round_pow2_diverges (w i r0 j0 : Nat) (hw : 1 ≤ w) (hi : 2^(w-1) < i) :
    exec w (w+1) Ref.round_pow2 ⟨[i, r0, j0], []⟩ = none := by
  rw [round_pow2_translated w i r0 j0 (by omega)]
  have := Covfie.C18.roundPow2_diverges w i hw hi (w + 1)
  simp only [roundPow2, this, Option.map_none]

/-- C18: `ipow` as written returns `b^e mod 2^w`. -/
theorem ipow_exact (w b e r0 q0 : Nat) (hw : 0 < w) (he : e < 2^w) :
    ∃ env', exec w (e+1) Ref.ipow ⟨[b, e, r0, q0], []⟩ = some env' ∧ env'.sc.getD 2 0 = b^e % 2^w := by
  obtain ⟨env', h1, h2⟩ := ipow_translated w b e r0 q0 hw he
  exact ⟨env', h1, by rw [h2, Covfie.C18.ipow_spec]⟩

/-- C14: the row-major loop as written hands the published position `Σ c_k Π_{l>k} N_l` to the backend whenever the cell
count fits the coordinate type. -/
theorem strided_position (w F : Nat) (c sizes : List Nat) (hbox : InBox sizes c) (hfit : prod sizes ≤ 2^w)
    (hlen : sizes.length < 2^64) (hF : sizes.length < F) (r0 i0 k0 t0 l0 : Nat) :
    ∃ env', exec w F Ref.strided_index ⟨[sizes.length, r0, i0, k0, t0, l0], [c, sizes]⟩ = some env'
      ∧ env'.sc.getD 1 0 = stridedIdx sizes c := by
  obtain ⟨env', h1, h2⟩ := strided_index_translated w F c sizes (InBox_length sizes c hbox).symm hlen hF r0 i0 k0 t0 l0
  exact ⟨env', h1, by rw [h2, Covfie.C14.strided_code_eq_closed_form w sizes c hbox hfit]⟩

/-- C14: bit `p` of the portable Morton index as written is bit `p / N` of coordinate `p mod N` (first coordinate least
significant) while `p / N < 64 / N`, and 0 above. -/
theorem morton_bits (F : Nat) (c : List Nat) (hN : 0 < c.length) (hF : 64 < F) (r0 x0 i0 j0 p : Nat) :
    ∃ env', exec 64 F Ref.morton_index ⟨[c.length, 64, r0, x0, i0, j0], [c]⟩ = some env'
      ∧ (env'.sc.getD 2 0).testBit p = (decide (p / c.length < 64 / c.length) && (c.getD (p % c.length) 0).testBit (p / c.length)) := by
  obtain ⟨env', h1, h2⟩ := morton_index_translated F c hN hF r0 x0 i0 j0
  exact ⟨env', h1, by rw [h2, Covfie.C14.morton_bit_interleave c hN p]⟩

/-- C14: the Hilbert index as written is the recursive Hilbert curve of the enclosing 2^k square (which visits every cell
once, starts at the origin and moves to an edge-adjacent cell at every step: `Covfie.C14.hilbert_*`). -/
theorem hilbert_curve (sx sy x y k : Nat) (hmax : max sx sy ≤ 2^32) (hk : hilN sx sy = 2^k) (hx : x < 2^k) (hy : y < 2^k)
    (r0 rx0 ry0 s0 d0 x0 y0 n0 t0 : Nat) :
    ∃ env', exec 64 65 Ref.hilbert_index ⟨[r0, rx0, ry0, s0, d0, x0, y0, n0, t0], [[x, y], [sx, sy]]⟩ = some env'
      ∧ env'.sc.getD 0 0 = hilR k x y := by
  obtain ⟨env', h1, h2⟩ := hilbert_index_translated sx sy x y hmax (by rw [hk]; exact hx) (by rw [hk]; exact hy)
    r0 rx0 ry0 s0 d0 x0 y0 n0 t0
  have hk63 := hilN_order_le (Nat.le_trans hmax (Nat.pow_le_pow_right (by omega) (by omega))) hk
  exact ⟨env', h1, by rw [h2, Covfie.C14.hilbert_code_eq_curve sx sy x y k hk hk63 hx hy]⟩

end Covfie.Code

namespace Covfie.Code
open Covfie.RImp

/-- C09: `affine::operator*(vector)` as written computes `A·v + t` (over any commutative ring; in floating point, the same sum
with a rounding after every operation: `Covfie.C09.affApply_round`). -/
theorem affine_apply_is_Ax_plus_t {α : Type} [CommRing α] {N : Nat} (A : Fin N → Fin (N+1) → α) (v : Fin N → α)
    (r0 res0 : List Nat → α) (F : Nat) (hN : N + 1 < 2^64) (hF : N + 1 < F) (m0 p0 i0 j0 k0 c0 : Nat) (t0 : α) :
    ∃ env' : Env α, exec F Ref.affine_apply ⟨[N, m0, p0, i0, j0, k0, c0], [t0], [ofMat A, r0, res0, ofVec v]⟩ = some env'
      ∧ ∀ i : Fin N, (env'.arr.getD 2 (fun _ => 0)) [i.val, 0] = (∑ k : Fin N, A i (Fin.castSucc k) * v k) + A i (Fin.last N) := by
  obtain ⟨env', h1, h2⟩ := affine_apply_translated_model A v r0 res0 F hN hF m0 p0 i0 j0 k0 c0 t0
  exact ⟨env', h1, fun i => by rw [h2 i, Covfie.C09.affApply_spec]⟩

end Covfie.Code
