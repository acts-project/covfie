import CovfieModel.Model.Config
/-! # C17 — A field's configuration can be read back and used to rebuild it -/
namespace Covfie.C17
open Covfie.Config

theorem construct_some (c : Cfg) (cs : List Cfg) : ∃ o, construct (c :: cs) = some o := by
  induction cs generalizing c with
  | nil => exact ⟨_, rfl⟩
  | cons c' cs ih => obtain ⟨o, ho⟩ := ih c'; exact ⟨.layer c o, by simp [construct, ho]⟩

theorem configs_construct (p : List Cfg) (o : Own) (h : construct p = some o) : configs o = p := by
  cases p with
  | nil => cases h
  | cons c cs =>
    induction cs generalizing c o with
    | nil => cases h; rfl
    | cons c' cs ih =>
      obtain ⟨b, hb, rfl⟩ := Option.map_eq_some_iff.mp h
      exact congrArg (c :: ·) (ih b c' hb)

theorem nthLayer_config (o : Own) (i : Nat) : (nthLayer o i).map getConfig = (configs o)[i]? := by
  induction o generalizing i with
  | prim c => cases i <;> rfl
  | layer c b ih =>
    cases i with
    | zero => rfl
    | succ i => exact ih i

/-- the configuration reported by layer `i` (counted from the outside, reached by `i` applications of
    `get_backend`) is the `i`-th element of the parameter pack the field was constructed with -/
theorem config_readback (p : List Cfg) (o : Own) (h : construct p = some o) (i : Nat) (hi : i < p.length) :
    (nthLayer o i).map getConfig = p[i]? := by
  rw [← configs_construct p o h]; exact nthLayer_config o i

theorem rebuild_eq (o : Own) : construct (configs o) = some o := by
  induction o with
  | prim c => rfl
  | layer c b ih =>
    cases hb : configs b with
    | nil => cases b <;> cases hb
    | cons c' cs => simp only [configs, hb, construct]; rw [← hb, ih]; rfl

/-- the positional helper assigns its i-th argument to the i-th layer counted from the outside, for every depth -/
theorem packFor_positional (args : List Cfg) : packFor args = args := by
  induction args with
  | nil => rfl
  | cons a as ih => rw [packFor, ih]

theorem packFor_readback (args : List Cfg) (o : Own) (h : construct (packFor args) = some o) (i : Nat)
    (hi : i < args.length) : (nthLayer o i).map getConfig = args[i]? := by
  rw [packFor_positional] at h; exact config_readback args o h i hi

example : (construct [⟨1, [3, 4]⟩, ⟨1, [5, 6]⟩, ⟨2, []⟩, ⟨3, [12]⟩]).map (fun o => (nthLayer o 1).map getConfig) =
    some (some ⟨1, [5, 6]⟩) := by decide
end Covfie.C17
