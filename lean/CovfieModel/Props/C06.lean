import CovfieModel.Lemmas.IO
/-! # C06 — Dumping a field and loading it back reproduces it exactly -/
namespace Covfie.C06
open Covfie.IO

/-- loading a dump (followed by anything) returns exactly the dumped configuration at every layer and the
    bit-identical stored words, and consumes exactly the dump -/
theorem load_dump (ty : Ty) (d : Dat) (rest : List Byte) (h : WF ty d) :
    load ty (dump ty d ++ rest) = .ok (d, rest) := IO.load_dump ty d rest h

/-- dumping the reloaded field produces exactly the same bytes as the first dump -/
theorem redump (ty : Ty) (d d' : Dat) (r : List Byte) (h : WF ty d)
    (hl : load ty (dump ty d) = .ok (d', r)) : dump ty d' = dump ty d ∧ r = [] := by
  have := IO.load_dump ty d [] h
  simp only [List.append_nil] at this
  rw [this] at hl
  simp only [Except.ok.injEq, Prod.mk.injEq] at hl
  exact ⟨by rw [← hl.1], hl.2.symm⟩

/-- dumps are self-delimiting: a stream that starts with a dump starts with no other dump of the same type, and determines
    where the dump ends -/
theorem dump_prefix_free (ty : Ty) (d₁ d₂ : Dat) (r₁ r₂ : List Byte) (h₁ : WF ty d₁) (h₂ : WF ty d₂)
    (h : dump ty d₁ ++ r₁ = dump ty d₂ ++ r₂) : d₁ = d₂ ∧ r₁ = r₂ := by
  have a := IO.load_dump ty d₁ r₁ h₁
  rw [h, IO.load_dump ty d₂ r₂ h₂] at a
  cases a
  exact ⟨rfl, rfl⟩

/-- **a dump determines the field**: two well-formed contents of one type with the same bytes are the same content
    (every configuration word and every stored word can be read off the file) -/
theorem dump_injective (ty : Ty) (d₁ d₂ : Dat) (h₁ : WF ty d₁) (h₂ : WF ty d₂) (h : dump ty d₁ = dump ty d₂) : d₁ = d₂ :=
  (dump_prefix_free ty d₁ d₂ [] [] h₁ h₂ (by rw [h])).1

/-- **several dumps in one stream**: loading twice from `dump a ++ dump b ++ rest` yields `a`, then `b`, and leaves `rest` —
    a load consumes exactly one dump, whatever follows it -/
theorem load_two (ty₁ ty₂ : Ty) (d₁ d₂ : Dat) (rest : List Byte) (h₁ : WF ty₁ d₁) (h₂ : WF ty₂ d₂) :
    (load ty₁ (dump ty₁ d₁ ++ (dump ty₂ d₂ ++ rest))).bind (fun r => (load ty₂ r.2).map fun r' => (r.1, r'.1, r'.2))
      = .ok (d₁, d₂, rest) := by
  rw [IO.load_dump ty₁ d₁ _ h₁]
  simp only [Except.bind]
  rw [IO.load_dump ty₂ d₂ _ h₂]
  rfl

/-- the outcome of loading a dump does not depend on what follows it in the stream -/
theorem load_ignores_rest (ty : Ty) (d : Dat) (r₁ r₂ : List Byte) (h : WF ty d) :
    (load ty (dump ty d ++ r₁)).map Prod.fst = (load ty (dump ty d ++ r₂)).map Prod.fst := by
  rw [IO.load_dump ty d r₁ h, IO.load_dump ty d r₂ h]
  rfl

/-- non-vacuity: a 2×2 row-major field of float3 under an affine layer and an interpolator, with a NaN payload,
    a negative zero and a subnormal among the stored words -/
def exTy : Ty := .affine 4 2 (.thin (.sized T_STRIDED 2 (.array 3)))
def exDat : Dat := .affine [0x3f800000, 0, 0, 0, 0x3f800000, 0]
  (.thin (.sized [2, 2] (.array 4 4 [0x7fc00123, 0x80000000, 1, 2, 3, 4, 5, 6, 7, 8, 9, 0xff800000])))
example : WF exTy exDat := by
  simp only [exTy, exDat, WF, allLt]; decide
set_option maxRecDepth 100000 in
example : (dump exTy exDat).length = 8 + (8 + 24 + (8 + 16 + (8 + 4 + 8 + 48 + 8) + 8) + 8) + 8 := by decide
end Covfie.C06
