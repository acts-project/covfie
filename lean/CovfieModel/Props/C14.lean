import CovfieModel.Lemmas.Strided
import CovfieModel.Lemmas.Morton
import CovfieModel.Lemmas.Hilbert
import Mathlib.Algebra.Group.Nat.Defs -- `2^k` on ℕ in the statements below is the `Monoid` power, as in the modules that use them with Mathlib
/-! # C14 — Storage orders follow their published curves -/
namespace Covfie.C14

/-! ## Row-major: position of (c₁ … c_N) is Σ_k c_k · Π_{l>k} N_l -/
/-- `stridedIdx` *is* that sum (head term `c · Π tail` plus the sum for the tail) … -/
theorem strided_closed_form (s : Nat) (ss : List Nat) (c : Nat) (cs : List Nat) :
    stridedIdx (s :: ss) (c :: cs) = c * prod ss + stridedIdx ss cs := rfl
/-- … and the code's loop, accumulating in a `w`-bit coordinate type, computes it whenever the cell count fits. -/
theorem strided_code_eq_closed_form (w : Nat) (sz c : List Nat) (h : InBox sz c) (hfit : prod sz ≤ 2^w) :
    stridedIdxW w sz c = stridedIdx sz c := strided_nowrap w sz c h hfit

/-! ## Morton: bit-interleave with the first coordinate least significant, identically in both implementations -/
theorem morton_bit_interleave (c : List Nat) (hN : 0 < c.length) (p : Nat) :
    (mortonLoop c).testBit p =
      (decide (p / c.length < 64 / c.length) && (c.getD (p % c.length) 0).testBit (p / c.length)) :=
  mortonLoop_testBit c hN p
theorem morton_bmi2_eq_portable (c : List Nat) (hN : 0 < c.length)
    (hc : ∀ j, j < c.length → c.getD j 0 < 2^(64 / c.length)) : mortonPdep c = mortonLoop c :=
  mortonPdep_eq_loop c hN hc

/-! ## Hilbert: every cell of a 2^k × 2^k square exactly once, from the origin, edge-adjacent steps -/
theorem hilbert_code_eq_curve (sx sy x y k : Nat) (hk : hilN sx sy = 2^k) (hk63 : k ≤ 63)
    (hx : x < 2^k) (hy : y < 2^k) : hilbertIdx [sx, sy] [x, y] = hilR k x y :=
  hilbertIdx_eq sx sy x y k hk hk63 hx hy
theorem hilbert_range (k x y : Nat) : hilR k x y < 4^k := hilR_lt k x y
theorem hilbert_visits_once (k x y x' y' : Nat) (hx : x < 2^k) (hy : y < 2^k) (hx' : x' < 2^k) (hy' : y' < 2^k)
    (h : hilR k x y = hilR k x' y') : x = x' ∧ y = y' := hilR_inj k x y x' y' hx hy hx' hy' h
theorem hilbert_starts_at_origin (k x y : Nat) (hx : x < 2^k) (hy : y < 2^k) :
    hilR k x y = 0 ↔ x = 0 ∧ y = 0 := hilR_zero_iff k x y hx hy
theorem hilbert_consecutive_adjacent (k x y x' y' : Nat) (hx : x < 2^k) (hy : y < 2^k) (hx' : x' < 2^k) (hy' : y' < 2^k)
    (h : hilR k x y + 1 = hilR k x' y') : adj x y x' y' := hilR_adj k x y x' y' hx hy hx' hy' h

theorem hilbert_visits_all (k d : Nat) (hd : d < 4^k) : ∃ x y, x < 2^k ∧ y < 2^k ∧ hilR k x y = d := hilR_surj k d hd

example : mortonLoop [5, 3] = 0b011011 := by decide
example : (List.range 16).map (fun d => ((List.range 4).flatMap fun x => (List.range 4).filterMap fun y =>
    if hilR 2 x y = d then some (x, y) else none)) =
  [[(0,0)],[(1,0)],[(1,1)],[(0,1)],[(0,2)],[(0,3)],[(1,3)],[(1,2)],[(2,2)],[(2,3)],[(3,3)],[(3,2)],[(3,1)],[(2,1)],[(2,0)],[(3,0)]] := by decide
end Covfie.C14
