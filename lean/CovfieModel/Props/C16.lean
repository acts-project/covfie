import CovfieModel.Model.Conc
/-! # C16 — Concurrent lookups are race-free and deterministic (cell-level model; any number of threads, any schedule) -/
namespace Covfie.C16
open Covfie.Conc

theorem solo_append (m : Mem) (as : List Act) (a : Act) :
    solo m (as ++ [a]) = ((exec (solo m as).1 a).1, (solo m as).2 ++ [(exec (solo m as).1 a).2]) := by
  induction as generalizing m with
  | nil => simp [solo]
  | cons b bs ih => simp [solo, ih]

theorem exec_mem_congr (m m' : Mem) (a : Act) (x : Nat) (h : m x = m' x) : (exec m a).1 x = (exec m' a).1 x := by
  cases a with
  | read cs => exact h
  | write c v =>
    dsimp only [exec]
    split
    · rfl
    · exact h

theorem exec_mem_frame (m : Mem) (a : Act) (x : Nat) (h : x ∉ a.writes) : (exec m a).1 x = m x := by
  cases a with
  | read cs => rfl
  | write c v => exact if_neg fun (e : x = c) => h (e ▸ .head _)

theorem exec_out_congr (m m' : Mem) (a : Act) (h : ∀ x ∈ a.reads, m x = m' x) : (exec m a).2 = (exec m' a).2 := by
  cases a with
  | read cs => exact List.map_congr_left h
  | write c v => rfl

/-- **A lookup is pure**: it leaves the memory unchanged … -/
theorem lookup_pure (m : Mem) (cs : List Nat) : (exec m (.read cs)).1 = m := rfl

/-- … and its result is a function of the cells in its footprint only. -/
theorem lookup_footprint (m m' : Mem) (cs : List Nat) (h : ∀ x ∈ cs, m x = m' x) :
    (exec m (.read cs)).2 = (exec m' (.read cs)).2 := exec_out_congr m m' (.read cs) h

theorem write_frame (m : Mem) (c v x : Nat) (h : x ≠ c) : (exec m (.write c v)).1 x = m x := if_neg h

/-- invariant over schedule prefixes: each thread sees, on its own footprint, the initial memory updated by its
    own earlier writes only, and has obtained exactly the values of running alone -/
structure Inv (m0 : Mem) (prog : Nat → List Act) (s : State) : Prop where
  split : ∀ t, prog t = s.done t ++ s.rest t
  view : ∀ t x, x ∈ footprint (prog t) → s.mem x = (solo m0 (s.done t)).1 x
  outs : ∀ t, s.out t = (solo m0 (s.done t)).2

theorem inv_init (m0 : Mem) (prog : Nat → List Act) : Inv m0 prog (init m0 prog) :=
  ⟨fun t => by simp [init], fun t x _ => by simp [init, solo], fun t => by simp [init, solo]⟩

theorem mem_footprint_of_mem {as : List Act} {a : Act} (ha : a ∈ as) {x : Nat} (hx : x ∈ a.reads ++ a.writes) :
    x ∈ footprint as := List.mem_flatMap.mpr ⟨a, ha, hx⟩

theorem inv_step (m0 : Mem) (prog : Nat → List Act) (hnc : NoConflict prog) (s : State) (h : Inv m0 prog s) (u : Nat) :
    Inv m0 prog (step s u) := by
  unfold step
  cases hr : s.rest u with
  | nil => simpa [hr] using h
  | cons a as =>
    have hsplit := h.split u
    rw [hr] at hsplit
    have ha_mem : a ∈ prog u := by rw [hsplit]; simp
    refine ⟨fun t => ?_, fun t x hx => ?_, fun t => ?_⟩
    · by_cases e : t = u
      · subst e; simp [upd, hsplit]
      · simp [upd, e, h.split t]
    · by_cases e : t = u
      · subst e
        simp only [upd, if_true]
        rw [solo_append]
        exact exec_mem_congr _ _ a x (h.view t x hx)
      · simp only [upd, e, if_false]
        exact (exec_mem_frame _ a x fun hw => hnc t u e x (List.mem_flatMap.mpr ⟨a, ha_mem, hw⟩) hx).trans
          (h.view t x hx)
    · by_cases e : t = u
      · subst e
        simp only [upd, if_true]
        rw [solo_append, h.outs t]
        -- the cells read now are in the thread's footprint, where the memory is that of the solo run
        rw [exec_out_congr _ _ a fun x hx => h.view t x (mem_footprint_of_mem ha_mem (List.mem_append_left _ hx))]
      · simp [upd, e, h.outs t]

theorem inv_run (m0 : Mem) (prog : Nat → List Act) (hnc : NoConflict prog) (sched : List Nat) :
    Inv m0 prog (run (init m0 prog) sched) := by
  suffices ∀ s, Inv m0 prog s → Inv m0 prog (run s sched) from this _ (inv_init m0 prog)
  induction sched with
  | nil => exact fun s h => h
  | cons t ts ih => exact fun s h => ih _ (inv_step m0 prog hnc s h t)

/-- **Determinism**: under any interleaving, every thread that has finished obtained exactly the values it obtains
    when run alone from the initial memory — hence exactly the values of any sequential execution. -/
theorem interleaving_eq_solo (m0 : Mem) (prog : Nat → List Act) (hnc : NoConflict prog) (sched : List Nat) (t : Nat)
    (hfin : (run (init m0 prog) sched).rest t = []) :
    (run (init m0 prog) sched).out t = (solo m0 (prog t)).2 := by
  have h := inv_run m0 prog hnc sched
  have := h.split t
  rw [hfin, List.append_nil] at this
  rw [h.outs t, this]

/-- **Race freedom**: two accesses from different threads to the same cell are both reads. -/
theorem race_free (prog : Nat → List Act) (hnc : NoConflict prog) (t u : Nat) (htu : t ≠ u)
    (a b : Act) (ha : a ∈ prog t) (hb : b ∈ prog u) (x : Nat)
    (hxa : x ∈ a.reads ++ a.writes) (hxb : x ∈ b.reads ++ b.writes) : x ∉ a.writes ∧ x ∉ b.writes := by
  constructor
  · intro hw
    exact hnc u t (Ne.symm htu) x (List.mem_flatMap.mpr ⟨a, ha, hw⟩) (mem_footprint_of_mem hb hxb)
  · intro hw
    exact hnc t u htu x (List.mem_flatMap.mpr ⟨b, hb, hw⟩) (mem_footprint_of_mem ha hxa)

/-- distinct coordinates are distinct cells under an injective index function (C01), so writers on disjoint
    coordinate sets never conflict -/
theorem cells_disjoint_of_coords (idx : List Nat → Nat) (Box : List Nat → Prop)
    (hinj : ∀ c c', Box c → Box c' → idx c = idx c' → c = c')
    (A B : List (List Nat)) (hA : ∀ c ∈ A, Box c) (hB : ∀ c ∈ B, Box c) (hd : ∀ c ∈ A, c ∉ B) :
    ∀ x ∈ A.map idx, x ∉ B.map idx := by
  intro x hx hx'
  obtain ⟨c, hc, rfl⟩ := List.mem_map.mp hx
  obtain ⟨c', hc', e⟩ := List.mem_map.mp hx'
  have := hinj c' c (hB c' hc') (hA c hc) e
  subst this; exact hd _ hc hc'

end Covfie.C16
