import CovfieModel.Model.ImpRef
import CovfieModel.Model.Numeric
import CovfieModel.Model.Layout
import CovfieModel.Lemmas.Imp
import CovfieModel.Lemmas.Numeric
/-! # The translated kernels are the model's kernels

`Covfie.Imp.Ref.*` are the terms the kernel translator (`harness/cxx2imp.py`) produces from the C++ source text;
every check re-translates the current text and compares.  The theorems below say that executing those terms under
`Covfie.Imp.exec` gives exactly the hand-written model functions the property theorems are about. -/
namespace Covfie.Imp

-- a test, not a theorem: the reader used by the driver recovers every reference kernel from its printed text
#guard Ref.all.all (fun (_, p) => Stmt.ofSexp p.toSexp == some p)

theorem rp2_iter (w i : Nat) : ∀ f j, iter (fun j => decide (j < i)) (fun j => j * 2 % 2^w) f j = rp2Loop w i f j := by
  intro f
  induction f with
  | zero => intro j; rfl
  | succ f ih => intro j; simp only [iter, rp2Loop, ih, decide_eq_true_eq]

theorem round_pow2_exec (w F i r0 j0 : Nat) :
    exec w F Ref.round_pow2 ⟨[i, r0, j0], []⟩ = (rp2Loop w i F (1 % 2^w)).map (fun j => ⟨[i, j, j], []⟩) := by
  rw [Ref.round_pow2]
  simp -implicitDefEqProofs only [imp_exec]
  -- `while (j < i) j *= 2` acts on `j` alone
  rw [exec_while_sim w F _ _ (abs := fun j => ⟨[i, r0, j], []⟩) (P := fun _ => True)
    (cA := fun j => decide (j < i)) (step := fun j => j * 2 % 2^w)
    (hc := by intro j _; simp -implicitDefEqProofs only [imp_exec])
    (hb := by intro j _ _; simp -implicitDefEqProofs only [imp_exec]) (hP := by intros; trivial) (1 % 2^w) trivial, rp2_iter]
  cases h : rp2Loop w i F (1 % 2^w) with
  | none => rfl
  | some r => simp -implicitDefEqProofs only [imp_exec, Option.map_some, Nat.mod_eq_of_lt (rp2Loop_lt w i _ _ _ (Nat.mod_lt _ (Nat.two_pow_pos w)) h)]

/-- `round_pow2` as written in `utility/numeric.hpp`, executed at width `w` with the model's fuel, is `roundPow2 w`:
same result, and out of fuel exactly when the model's loop is. -/
theorem round_pow2_translated (w i r0 j0 : Nat) (hw : 0 < w) :
    exec w (w+1) Ref.round_pow2 ⟨[i, r0, j0], []⟩ = (roundPow2 w i).map (fun j => ⟨[i, j, j], []⟩) :=
  round_pow2_exec w (w + 1) i r0 j0

def ipowStep (w : Nat) (s : Nat × Nat × Nat) : Nat × Nat × Nat :=
  (if s.2.2 % 2 = 1 then s.1 * s.2.1 % 2^w else s.1, s.2.1 * s.2.1 % 2^w, s.2.2 / 2)

theorem ipow_exec (w b e f r0 q0 : Nat) (he : e < 2^w) (hf : e < 2^f) :
    ∃ env', exec w (f+1) Ref.ipow ⟨[b, e, r0, q0], []⟩ = some env' ∧ env'.sc.getD 2 0 = ipowLoop w (f+1) (1 % 2^w) b e := by
  obtain ⟨r, hit, (hr : ipowLoop w (f+1) (1 % 2^w) b e = r.1)⟩ := iter_halving (fun s => s.2.2) (ipowStep w)
    (fun f (s : Nat × Nat × Nat) => ipowLoop w f s.1 s.2.1 s.2.2) (fun s => s.1) (fun _ => rfl) (fun _ _ => rfl)
    f (1 % 2^w, b, e) hf
  have hlt : r.1 < 2^w := hr ▸ ipowLoop_lt w _ _ _ _ (Nat.mod_lt _ (Nat.two_pow_pos w))
  refine ⟨⟨[r.2.1, r.2.2, r.1, r.1], []⟩, ?_, hr.symm⟩
  rw [Ref.ipow]
  simp -implicitDefEqProofs only [imp_exec]
  -- the loop acts on `(r, i, p)` as `ipowStep`, keeping `p < 2^w` (so that `p >> 1` is not truncated)
  rw [exec_while_sim w (f+1) _ _ (abs := fun (s : Nat × Nat × Nat) => ⟨[s.2.1, s.2.2, r0, s.1], []⟩)
    (P := fun s => s.2.2 < 2^w) (cA := fun s => decide (s.2.2 ≠ 0)) (step := ipowStep w) ?_ ?_ ?_ (1 % 2^w, b, e) he, hit]
  · simp -implicitDefEqProofs only [imp_exec, Option.map_some, Nat.mod_eq_of_lt hlt]
  · intro s _; simp -implicitDefEqProofs only [imp_exec]
  · intro ⟨r, i, p⟩ (hp : p < 2^w) _
    have hp2 : p / 2 < 2^w := Nat.lt_of_le_of_lt (Nat.div_le_self p 2) hp
    by_cases hodd : p % 2 = 1
    · simp -implicitDefEqProofs only [imp_exec, ipowStep, Nat.and_one_is_mod, Nat.shiftRight_eq_div_pow, Nat.pow_one, if_pos hodd,
        if_pos (show p % 2 ≠ 0 by omega), Nat.mod_eq_of_lt hp2]
    · simp -implicitDefEqProofs only [imp_exec, ipowStep, Nat.and_one_is_mod, Nat.shiftRight_eq_div_pow, Nat.pow_one, if_neg hodd,
        if_neg (show ¬ p % 2 ≠ 0 by omega), Nat.mod_eq_of_lt hp2]
  · intro ⟨r, i, p⟩ (hp : p < 2^w) _; exact Nat.lt_of_le_of_lt (Nat.div_le_self p 2) hp

/-- `ipow` as written in `utility/numeric.hpp`, executed at width `w`, returns the model's `ipow w b e`. -/
theorem ipow_translated (w b e r0 q0 : Nat) (hw : 0 < w) (he : e < 2^w) :
    ∃ env', exec w (e+1) Ref.ipow ⟨[b, e, r0, q0], []⟩ = some env' ∧ env'.sc.getD 2 0 = ipow w b e :=
  ipow_exec w b e e r0 q0 he Nat.lt_two_pow_self

theorem stridedTmpW_lt (w : Nat) : ∀ ss tmp, tmp < 2^w → stridedTmpW w tmp ss < 2^w := by
  intro ss
  induction ss with
  | nil => intro tmp h; exact h
  | cons s ss ih => intro tmp _; exact ih _ (Nat.mod_lt _ (Nat.two_pow_pos w))

theorem stridedIdxW_lt (w : Nat) (sizes c : List Nat) : stridedIdxW w sizes c < 2^w := by
  cases sizes with
  | nil => simp [stridedIdxW, Nat.two_pow_pos]
  | cons s ss =>
    cases c with
    | nil => simp [stridedIdxW, Nat.two_pow_pos]
    | cons c cs => simp only [stridedIdxW]; exact Nat.mod_lt _ (Nat.two_pow_pos w)

theorem stridedTmp_loop (w : Nat) (sizes : List Nat) : ∀ d l tmp, l + d = sizes.length →
    (List.range' l d).foldl (fun t l => t * (sizes.getD l 0 % 2^w) % 2^w) tmp = stridedTmpW w tmp (sizes.drop l) := by
  intro d
  induction d with
  | zero => intro l tmp h; rw [List.drop_eq_nil_of_le (by omega)]; rfl
  | succ d ih =>
    intro l tmp h
    have hl : l < sizes.length := by omega
    rw [List.range'_succ, List.foldl_cons, ih _ _ (by omega), List.drop_eq_getElem_cons hl, stridedTmpW]
    simp [List.getD_eq_getElem?_getD, List.getElem?_eq_getElem hl]

/-- one pass of the outer loop `for k`: `idx += c[k] · Π_{l>k} sizes[l]` in the coordinate type -/
def stridedStep (w : Nat) (c sizes : List Nat) (k idx : Nat) : Nat :=
  (idx + stridedTmpW w (c.getD k 0 % 2^w) (sizes.drop (k + 1))) % 2^w

theorem stridedStep_foldl (w : Nat) (c sizes : List Nat) (hN : sizes.length = c.length) : ∀ d k idx, k + d = sizes.length →
    idx < 2^w →
    (List.range' k d).foldl (fun idx k => stridedStep w c sizes k idx) idx
      = (idx + stridedIdxW w (sizes.drop k) (c.drop k)) % 2^w := by
  intro d
  induction d with
  | zero =>
    intro k idx h hidx
    rw [List.drop_eq_nil_of_le (by omega)]
    exact (Nat.mod_eq_of_lt hidx).symm
  | succ d ih =>
    intro k idx h hidx
    have hs : k < sizes.length := by omega
    have hc : k < c.length := by omega
    rw [List.range'_succ, List.foldl_cons, ih (k + 1) (stridedStep w c sizes k idx) (by omega) (Nat.mod_lt _ (Nat.two_pow_pos w)),
      List.drop_eq_getElem_cons hs, List.drop_eq_getElem_cons hc, stridedIdxW, stridedStep]
    simp [List.getD_eq_getElem?_getD, List.getElem?_eq_getElem hc, Nat.add_assoc]

theorem stridedStep_loop (w : Nat) (c sizes : List Nat) (hN : sizes.length = c.length) :
    (List.range sizes.length).foldl (fun idx k => stridedStep w c sizes k idx) 0 = stridedIdxW w sizes c := by
  rw [List.range_eq_range', stridedStep_foldl w c sizes hN _ 0 0 (Nat.zero_add _) (Nat.two_pow_pos w), Nat.zero_add,
    List.drop_zero, List.drop_zero, Nat.mod_eq_of_lt (stridedIdxW_lt w sizes c)]

-- `Ref.strided_index`: variables 0 `N`, 1 `ret`, 2 `idx`, 3 `k`, 4 `tmp`, 5 `l`; arrays 0 `c`, 1 `m_sizes`
def stL : Stmt := .assign 4 .T (.bin .mul .T (.var 4) (.cast .T (.idx 1 (.var 5))))
def stK : Stmt :=
  .seq (.assign 4 .T (.idx 0 (.var 3)))
    (.seq (.seq (.assign 5 .S (.bin .add .S (.var 3) (.lit 1))) (forLt 5 (.var 0) stL)) (.assign 2 .T (.bin .add .T (.var 2) (.var 4))))
theorem st_shape : Ref.strided_index = .seq (.assign 2 .T (.lit 0))
    (.seq (.seq (.assign 3 .S (.lit 0)) (forLt 3 (.var 0) stK)) (.assign 1 .T (.var 2))) := rfl

theorem stK_exec (w F r0 : Nat) (c sizes : List Nat) (hlen : sizes.length < 2^64) (hF : sizes.length < F)
    (idx k t0 l0 : Nat) (hk : k < sizes.length) :
    exec w F stK ⟨[sizes.length, r0, idx, k, t0, l0], [c, sizes]⟩
      = some ⟨[sizes.length, r0, stridedStep w c sizes k idx, k,
          stridedTmpW w (c.getD k 0 % 2^w) (sizes.drop (k + 1)), sizes.length], [c, sizes]⟩ := by
  obtain ⟨_, hL⟩ := exec_for w F 5 sizes.length (.var 0) stL
    (e := fun l (t : Nat) (_ : Unit) => ⟨[sizes.length, r0, idx, k, t, l], [c, sizes]⟩)
    (step := fun l t => t * (sizes.getD l 0 % 2^w) % 2^w) hlen (fun _ _ _ => rfl)
    (fun l t _ _ => ⟨(), by simp -implicitDefEqProofs only [imp_exec, stL]⟩) (k + 1) hk (by omega) (c.getD k 0 % 2^w) ()
  rw [stridedTmp_loop w sizes _ _ _ (by omega)] at hL
  simp -implicitDefEqProofs only [imp_exec, stK, Nat.mod_eq_of_lt (show k + 1 < 2^64 by omega)]
  rw [hL]
  simp -implicitDefEqProofs only [imp_exec, stridedStep]

theorem strided_index_exec (w F : Nat) (c sizes : List Nat) (hN : sizes.length = c.length)
    (hlen : sizes.length < 2^64) (hF : sizes.length < F) (r0 i0 k0 t0 l0 : Nat) :
    ∃ t l, exec w F Ref.strided_index ⟨[sizes.length, r0, i0, k0, t0, l0], [c, sizes]⟩
      = some ⟨[sizes.length, stridedIdxW w sizes c, stridedIdxW w sizes c, sizes.length, t, l], [c, sizes]⟩ := by
  obtain ⟨⟨t, l⟩, h⟩ := exec_for_zero w F 3 sizes.length (.var 0) stK
    (e := fun k idx (j : Nat × Nat) => ⟨[sizes.length, r0, idx, k, j.1, j.2], [c, sizes]⟩) (step := stridedStep w c sizes) hlen
    (fun _ _ _ => rfl) (fun k idx j hk => ⟨(_, _), stK_exec w F r0 c sizes hlen hF idx k j.1 j.2 hk⟩) hF 0 (t0, l0)
  rw [stridedStep_loop w c sizes hN] at h
  refine ⟨t, l, ?_⟩
  rw [st_shape]
  simp -implicitDefEqProofs only [imp_exec]
  rw [h]
  simp -implicitDefEqProofs only [imp_exec, Nat.mod_eq_of_lt (stridedIdxW_lt w sizes c)]

/-- The flat-index computation of `strided::non_owning_data_t::at` as written in `strided.hpp`, executed with the
coordinate scalar `w` bits wide, hands `stridedIdxW w sizes c` to the backend. -/
theorem strided_index_translated (w F : Nat) (c sizes : List Nat) (hN : sizes.length = c.length)
    (hlen : sizes.length < 2^64) (hF : sizes.length < F) (r0 i0 k0 t0 l0 : Nat) :
    ∃ env', exec w F Ref.strided_index ⟨[sizes.length, r0, i0, k0, t0, l0], [c, sizes]⟩ = some env'
      ∧ env'.sc.getD 1 0 = stridedIdxW w sizes c := by
  obtain ⟨t, l, h⟩ := strided_index_exec w F c sizes hN hlen hF r0 i0 k0 t0 l0
  exact ⟨_, h, rfl⟩

/-- `g n` is `t 0 ||| … ||| t (n - 1)` unreduced: reducing mod `2^w` at every step is reducing once at the end -/
theorem foldl_or_mod (w : Nat) (t g : Nat → Nat) (h0 : g 0 = 0) (hs : ∀ j, g (j + 1) = g j ||| t j) (acc : Nat) :
    ∀ n, acc < 2^w ∨ 0 < n → (List.range n).foldl (fun a j => (a ||| t j) % 2^w) acc = (acc ||| g n) % 2^w := by
  intro n
  induction n with
  | zero => intro h; rw [h0, Nat.or_zero, Nat.mod_eq_of_lt (by omega)]; rfl
  | succ n ih =>
    intro _
    rw [List.range_succ, List.foldl_append, List.foldl_cons, List.foldl_nil, hs]
    cases n with
    | zero => rw [h0, Nat.zero_or]; rfl
    | succ n => rw [ih (Or.inr (Nat.succ_pos n)), Nat.or_mod_two_pow, Nat.mod_mod, ← Nat.or_mod_two_pow, Nat.or_assoc]

-- `Ref.morton_index`: variables 0 `N`, 1 `OBITS`, 2 `ret`, 3 `idx`, 4 `i`, 5 `j`; array 0 `c`
def moJ : Stmt :=
  .assign 3 .S (.bin .bor .S (.var 3) (.bin .shl .S (.bin .band .S (.idx 0 (.var 5)) (.bin .shl .S (.lit 1) (.var 4)))
    (.bin .add .S (.bin .mul .S (.var 4) (.bin .sub .S (.var 0) (.lit 1))) (.var 5))))
def moI : Stmt := .seq (.assign 5 .S (.lit 0)) (forLt 5 (.var 0) moJ)
theorem mo_shape : Ref.morton_index = .seq (.assign 3 .S (.lit 0))
    (.seq (.seq (.assign 4 .S (.lit 0)) (forLt 4 (.bin .div .S (.var 1) (.var 0)) moI)) (.assign 2 .S (.var 3))) := rfl

/-- while `(i + 1) · N ≤ 64`, the bit `i`, the mask `1 << i` and the shift `i · (N - 1) + j` of `moJ` stay below 64 -/
theorem mo_arith {N i j : Nat} (hN : 0 < N) (hi : i < 64 / N) (hj : j < N) : i < 64 ∧ N ≤ 64 ∧ i * (N - 1) + j < 64 := by
  have hle : i * N + N ≤ 64 := by rw [← Nat.succ_mul]; exact (Nat.le_div_iff_mul_le hN).mp hi
  have h1 : i * (N - 1) ≤ i * N := Nat.mul_le_mul_left i (Nat.sub_le N 1)
  have h2 : i ≤ i * N := Nat.le_mul_of_pos_right i hN
  omega

theorem moI_exec (F r0 idx i N j0 : Nat) (c : List Nat) (hF : 64 < F) (hN : 0 < N) (hi : i < 64 / N) :
    exec 64 F moI ⟨[N, 64, r0, idx, i, j0], [c]⟩
      = some ⟨[N, 64, r0, (idx ||| mInner N i (fun j => c.getD j 0) N) % 2^64, i, N], [c]⟩ := by
  have lt64 : ∀ {a : Nat}, a < 64 → a % 2^64 = a := fun h => Nat.mod_eq_of_lt (Nat.lt_trans h (by decide))
  obtain ⟨hi64, hN64, -⟩ := mo_arith hN hi hN
  have hN' : N < 2^64 := Nat.lt_of_le_of_lt hN64 (by decide)
  obtain ⟨_, h⟩ := exec_for_zero 64 F 5 N (.var 0) moJ (e := fun j (a : Nat) (_ : Unit) => ⟨[N, 64, r0, a, i, j], [c]⟩)
    (step := fun j a => (a ||| (c.getD j 0 &&& 1 <<< i) <<< (i * (N - 1) + j)) % 2^64) hN' (fun _ _ _ => rfl)
    (fun j a _ hj => ⟨(), by
      have hs := (mo_arith hN hi hj).2.2
      simp -implicitDefEqProofs only [imp_exec, moJ, sub_nowrap hN hN', lt64 hs,
        lt64 (Nat.lt_of_le_of_lt (Nat.le_add_right _ j) hs),
        Nat.mod_eq_of_lt (Nat.one_shiftLeft i ▸ Nat.pow_lt_pow_right (by decide) hi64 : 1 <<< i < 2^64)]
      rw [Nat.or_mod_two_pow, Nat.mod_mod, ← Nat.or_mod_two_pow]⟩) (Nat.lt_of_le_of_lt hN64 hF) idx ()
  rw [foldl_or_mod 64 _ (mInner N i fun j => c.getD j 0) rfl (fun _ => rfl) idx N (Or.inr hN)] at h
  simp -implicitDefEqProofs only [imp_exec, moI]
  exact h

theorem morton_index_exec (F : Nat) (c : List Nat) (hN : 0 < c.length) (hF : 64 < F) (r0 x0 i0 j0 : Nat) :
    ∃ j, exec 64 F Ref.morton_index ⟨[c.length, 64, r0, x0, i0, j0], [c]⟩
      = some ⟨[c.length, 64, mortonLoop c, mortonLoop c, 64 / c.length, j], [c]⟩ := by
  have hB : 64 / c.length ≤ 64 := Nat.div_le_self 64 _
  obtain ⟨j, h⟩ := exec_for_zero 64 F 4 (64 / c.length) (.bin .div .S (.var 1) (.var 0)) moI
    (e := fun i (a j : Nat) => ⟨[c.length, 64, r0, a, i, j], [c]⟩)
    (step := fun i a => (a ||| mInner c.length i (fun j => c.getD j 0) c.length) % 2^64) (by omega) (fun _ _ _ => rfl)
    (fun i a j hi => ⟨_, moI_exec F r0 a i c.length j c hF hN hi⟩) (by omega) 0 j0
  rw [foldl_or_mod 64 _ (mOuter c.length fun j => c.getD j 0) rfl (fun _ => rfl) 0 _ (Or.inl (by omega)), Nat.zero_or] at h
  refine ⟨j, ?_⟩
  rw [mo_shape]
  simp -implicitDefEqProofs only [imp_exec]
  rw [h]
  simp -implicitDefEqProofs only [imp_exec, mortonLoop]

/-- The portable Morton index loop of `morton.hpp` (64-bit backend index), as written, returns `mortonLoop c`. -/
theorem morton_index_translated (F : Nat) (c : List Nat) (hN : 0 < c.length) (hF : 64 < F) (r0 x0 i0 j0 : Nat) :
    ∃ env', exec 64 F Ref.morton_index ⟨[c.length, 64, r0, x0, i0, j0], [c]⟩ = some env'
      ∧ env'.sc.getD 2 0 = mortonLoop c := by
  obtain ⟨j, h⟩ := morton_index_exec F c hN hF r0 x0 i0 j0
  exact ⟨_, h, rfl⟩

/-- The BMI2 build with `use_bmi2 = false` compiles the same loop (`1UL` instead of `static_cast<std::size_t>(1)`). -/
theorem morton_index_variants : Ref.morton_index_bmi2_off = Ref.morton_index := rfl

end Covfie.Imp
