namespace Covfie

/-! Positional notation with one digit `q` above a block of size `S`: `q * S + e` with `e < S`. The row-major index
(`c * Π tail + index in the tail`), the Hilbert index (`quadrant * 4^l + index in the quadrant`) and the position of a
Morton bit (`i * N + j`) are all of this form. -/

theorem radix_lt {S q e n : Nat} (hq : q < n) (he : e < S) : q * S + e < n * S :=
  Nat.lt_of_lt_of_le (by rw [Nat.succ_mul]; omega) (Nat.mul_le_mul_right S hq)

theorem radix_div_mod {S e : Nat} (q : Nat) (he : e < S) : (q * S + e) / S = q ∧ (q * S + e) % S = e :=
  (Nat.div_mod_unique (by omega)).mpr ⟨by rw [Nat.mul_comm, Nat.add_comm], he⟩

theorem radix_iff {S e : Nat} (q p : Nat) (he : e < S) : p = q * S + e ↔ p / S = q ∧ p % S = e :=
  ⟨fun h => h ▸ radix_div_mod q he, fun ⟨h1, h2⟩ => by rw [← h1, ← h2]; exact (Nat.div_add_mod' p S).symm⟩

theorem radix_inj {S q e q' e' : Nat} (he : e < S) (he' : e' < S) (h : q * S + e = q' * S + e') :
    q = q' ∧ e = e' := by
  have a := radix_div_mod q he
  rw [h] at a
  exact ⟨a.1.symm.trans (radix_div_mod q' he').1, a.2.symm.trans (radix_div_mod q' he').2⟩

theorem radix_succ {S q e q' e' : Nat} (he : e < S) (he' : e' < S) (h : q * S + e + 1 = q' * S + e') :
    (q = q' ∧ e + 1 = e') ∨ (q + 1 = q' ∧ e + 1 = S ∧ e' = 0) := by
  rcases Nat.lt_or_ge (e + 1) S with hc | hc
  · exact .inl (radix_inj hc he' h)
  · obtain ⟨hq, h0⟩ := radix_inj (e := 0) (by omega) he' (by rw [Nat.succ_mul]; omega : (q + 1) * S + 0 = q' * S + e')
    exact .inr ⟨hq, by omega, h0.symm⟩

end Covfie
