import CovfieModel.Model.Layout
import CovfieModel.Model.NdMap
import CovfieModel.Lemmas.Radix
namespace Covfie

theorem strided_lt (sz c : List Nat) (h : InBox sz c) : stridedIdx sz c < prod sz := by
  induction sz, c using InBox.induct with
  | case1 => exact Nat.one_pos
  | case2 s ss c cs ih => exact radix_lt h.1 (ih h.2)
  | case3 t x h1 h2 => exact (InBox.eq_3 t x h1 h2 ▸ h).elim

theorem strided_inj (sz c c' : List Nat) (h : InBox sz c) (h' : InBox sz c')
    (e : stridedIdx sz c = stridedIdx sz c') : c = c' := by
  induction sz, c using InBox.induct generalizing c' with
  | case1 => cases c' with
    | nil => rfl
    | cons => exact h'.elim
  | case2 s ss a as ih => cases c' with
    | nil => exact h'.elim
    | cons b bs =>
      obtain ⟨e1, e2⟩ := radix_inj (strided_lt ss as h.2) (strided_lt ss bs h'.2) e
      rw [e1, ih bs h.2 h'.2 e2]
  | case3 t x h1 h2 => exact (InBox.eq_3 t x h1 h2 ▸ h).elim

theorem stridedTmpW_mod (w tmp : Nat) (ss : List Nat) : stridedTmpW w tmp ss % 2^w = tmp * prod ss % 2^w := by
  induction ss generalizing tmp with
  | nil => rw [stridedTmpW, prod, Nat.mul_one]
  | cons s ss ih =>
    rw [stridedTmpW, ih, Nat.mod_mul_mod, Nat.mul_right_comm, Nat.mul_mod_mod, Nat.mul_right_comm, Nat.mul_assoc, prod]

/-- `strided::at` accumulates in a `w`-bit type; reduction mod `2^w` commutes with sums and products, so whatever the
    extents and coordinates it returns the row-major index mod `2^w` -/
theorem stridedIdxW_mod (w : Nat) (sz c : List Nat) : stridedIdxW w sz c = stridedIdx sz c % 2^w := by
  induction sz generalizing c with
  | nil => cases c <;> rfl
  | cons s ss ih => cases c with
    | nil => rfl
    | cons c cs =>
      rw [stridedIdxW, Nat.add_mod, stridedTmpW_mod, ih, Nat.mod_mod, Nat.mod_mul_mod, ← Nat.add_mod, stridedIdx]

theorem strided_nowrap (w : Nat) (sz c : List Nat) (h : InBox sz c) (hfit : prod sz ≤ 2^w) :
    stridedIdxW w sz c = stridedIdx sz c :=
  (stridedIdxW_mod w sz c).trans (Nat.mod_eq_of_lt (Nat.lt_of_lt_of_le (strided_lt sz c h) hfit))

end Covfie
