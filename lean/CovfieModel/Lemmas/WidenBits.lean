import CovfieModel.Lemmas.Bits
/-! The widening `widenBits` of `Model/Narrow.lean` on the integer decoders: a finite float `(M, E) = dec32 b` becomes the
    double `(M·2^k, E − k)`, an infinity keeps its fields (core only). -/
namespace Covfie.C07

theorem normalise_bounds (M n : Nat) (hM : M ≠ 0) (h : Nat.log2 M ≤ n) :
    2^n ≤ M * 2^(n - Nat.log2 M) ∧ M * 2^(n - Nat.log2 M) < 2^(n + 1) :=
  (Nat.log2_eq_iff (Nat.mul_ne_zero hM (Nat.ne_of_gt (Nat.two_pow_pos _)))).mp (by rw [log2_mul_two_pow M _ hM]; omega)

theorem widenBits_finite (b : Nat) (he : b / 2^23 % 2^8 ≠ 255) :
    ∃ k : Nat, widenBits b < 2^64 ∧ widenBits b / 2^63 % 2 = b / 2^31 % 2 ∧ widenBits b / 2^52 % 2^11 ≠ 2047 ∧
      dec64 (widenBits b) = ((dec32 b).1 * 2^k, (dec32 b).2 - k) := by
  have hs : b / 2^31 % 2 < 2 := Nat.mod_lt _ (by decide)
  suffices h : ∃ k e m : Nat, e < 2047 ∧ m < 2^52 ∧ widenBits b = (b / 2^31 % 2) * 2^63 + e * 2^52 + m ∧
      (if e = 0 then (m, (-1074 : Int)) else (2^52 + m, (e : Int) - 1075)) = ((dec32 b).1 * 2^k, (dec32 b).2 - k) by
    obtain ⟨k, e, m, he, hm, hw, hd⟩ := h
    obtain ⟨h1, h2, h3⟩ := dec64_mk _ _ e m hw (by omega) hm
    exact ⟨k, by omega, by rw [h1, Nat.mod_eq_of_lt hs], h2 ▸ Nat.ne_of_lt he, h3.trans hd⟩
  have hm := Nat.mod_lt b (Nat.two_pow_pos 23)
  have he8 := Nat.mod_lt (b / 2^23) (Nat.two_pow_pos 8)
  simp only [widenBits, dec32]
  generalize b / 2^23 % 2^8 = e at *
  generalize b % 2^23 = m at *
  rw [if_neg he]
  -- exponent fields differ by the biases, 1023 - 127 = 896; a subnormal shifted up to 53 bits gets `len + 873`, 873 = 896 - 23
  by_cases e0 : e = 0
  · simp only [if_pos e0]
    by_cases m0 : m = 0
    · -- a zero is `0·2^(-149) = 0·2^(-1074)`: `k = 1074 - 149 = 925`, behind a variable so that no step tries to compute `2^925`
      obtain ⟨k, hk⟩ : ∃ k : Nat, (k : Int) = 925 := ⟨925, rfl⟩
      exact ⟨k, 0, 0, by omega, by omega, by rw [if_pos m0]; omega,
        by rw [if_pos rfl, m0, Nat.zero_mul, show (-149 : Int) - k = -1074 by omega]⟩
    · have hl : Nat.log2 m < 23 := (Nat.log2_lt m0).mpr hm
      obtain ⟨h1, h2⟩ := normalise_bounds m 52 m0 (by omega)
      refine ⟨52 - Nat.log2 m, Nat.log2 m + 1 + 873, m * 2^(52 - Nat.log2 m) - 2^52, by omega, by omega, ?_, ?_⟩
      · rw [if_neg m0, show 53 - (Nat.log2 m + 1) = 52 - Nat.log2 m by omega]
      · rw [if_neg (by omega)]; exact Prod.ext (by omega) (by omega)
  · simp only [if_neg e0]
    exact ⟨29, e + 896, m * 2^29, by omega, by omega, rfl, by rw [if_neg (by omega)]; exact Prod.ext (by omega) (by omega)⟩

theorem widenBits_inf (b : Nat) (he : b / 2^23 % 2^8 = 255) (hm : b % 2^23 = 0) :
    widenBits b / 2^63 = b / 2^31 % 2 ∧ widenBits b / 2^52 % 2^11 = 2047 ∧ widenBits b % 2^52 = 0 := by
  have hw : widenBits b = (b / 2^31 % 2) * 2^63 + 2047 * 2^52 + 0 := by simp only [widenBits, he, hm, if_true]
  obtain ⟨h1, h2, h3⟩ := bit_fields 52 11 63 (b / 2^31 % 2) 2047 0 rfl (by decide) (by decide)
  rw [hw]
  exact ⟨h3, h2, h1⟩

end Covfie.C07
