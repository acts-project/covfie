import Lean.Meta.Tactic.Simp.RegisterCommand
/-- The equations that run straight-line `Covfie.Imp` and `Covfie.RImp` code on an environment written out as lists
(`Lemmas/Imp.lean`, `Lemmas/RImp.lean`). -/
register_simp_attr imp_exec
