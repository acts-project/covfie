import CovfieModel.Model.Numeric
namespace Covfie

theorem rp2Loop_step {w i k : Nat} (fuel : Nat) (h : 2^k < i) (hk : k + 1 < w) :
    rp2Loop w i (fuel + 1) (2^k) = rp2Loop w i fuel (2^(k+1)) := by
  rw [rp2Loop, if_pos h, ← Nat.pow_succ, Nat.mod_eq_of_lt (Nat.pow_lt_pow_right (by omega) hk)]

theorem rp2Loop_spec (w i k fuel : Nat) (hi : i ≤ 2^(w-1)) (hfuel : w ≤ fuel + k) (hkw : k < w) :
    ∃ r, rp2Loop w i fuel (2^k) = some (2^r) ∧ i ≤ 2^r ∧ (∀ m, k ≤ m → i ≤ 2^m → r ≤ m) ∧ r < w := by
  induction fuel generalizing k with
  | zero => omega
  | succ fuel ih =>
    by_cases hlt : 2^k < i
    · have hk1 : k + 1 < w := by
        have := (Nat.pow_lt_pow_iff_right (by omega : 1 < 2)).mp (Nat.lt_of_lt_of_le hlt hi)
        omega
      obtain ⟨r, e, h1, h2, h3⟩ := ih (k + 1) (by omega) hk1
      refine ⟨r, (rp2Loop_step fuel hlt hk1).trans e, h1, fun m hkm hm => h2 m ?_ hm, h3⟩
      exact Nat.lt_of_le_of_ne hkm fun e => Nat.not_le_of_lt hlt (e ▸ hm)
    · exact ⟨k, by rw [rp2Loop, if_neg hlt], by omega, fun m hkm _ => hkm, hkw⟩

theorem roundPow2_spec' (w i : Nat) (hw : 1 ≤ w) (hi : i ≤ 2^(w-1)) :
    ∃ r, roundPow2 w i = some (2^r) ∧ i ≤ 2^r ∧ (∀ m, i ≤ 2^m → r ≤ m) ∧ r ≤ w - 1 := by
  obtain ⟨r, e, h1, h2, h3⟩ := rp2Loop_spec w i 0 (w + 1) hi (by omega) hw
  exact ⟨r, by rw [roundPow2, Nat.one_mod_two_pow hw]; exact e, h1, fun m => h2 m (Nat.zero_le m), by omega⟩

theorem rp2Loop_zero_diverges (w i fuel : Nat) (hi : 0 < i) : rp2Loop w i fuel 0 = none := by
  induction fuel with
  | zero => rfl
  | succ f ih => simp [rp2Loop, hi, ih]

theorem rp2Loop_diverges (w i : Nat) (hw : 1 ≤ w) (hi : 2^(w-1) < i) :
    ∀ fuel k, k ≤ w - 1 → rp2Loop w i fuel (2^k) = none := by
  intro fuel
  induction fuel with
  | zero => intro k _; rfl
  | succ f ih =>
    intro k hk
    have hlt : 2^k < i := Nat.lt_of_le_of_lt (Nat.pow_le_pow_right (by omega) hk) hi
    by_cases hk1 : k + 1 < w
    · rw [rp2Loop_step f hlt hk1]; exact ih (k + 1) (by omega)
    · rw [rp2Loop, if_pos hlt, ← Nat.pow_succ, show k.succ = w by omega, Nat.mod_self]
      exact rp2Loop_zero_diverges w i f (Nat.zero_lt_of_lt hi)

theorem ipowLoop_spec (w fuel r i p : Nat) (hf : p < fuel) :
    ipowLoop w fuel r i p % 2^w = (r * i^p) % 2^w := by
  induction fuel generalizing r i p with
  | zero => omega
  | succ fuel ih =>
    rw [ipowLoop]
    by_cases hp : p = 0
    · subst hp; simp
    · -- one pass keeps `r · i^p`: it is `(r · i^(p % 2)) · (i²)^(p / 2)`
      rw [if_neg hp, ih _ _ _ (by omega), ← Nat.mul_mod_mod, ← Nat.pow_mod, ← Nat.pow_two, ← Nat.pow_mul,
        Nat.mul_mod_mod]
      split
      · rw [Nat.mod_mul_mod, Nat.mul_assoc, ← Nat.pow_succ', show (2 * (p / 2)).succ = p by omega]
      · rw [show 2 * (p / 2) = p by omega]

theorem ipowLoop_lt (w fuel r i p : Nat) (hr : r < 2^w) : ipowLoop w fuel r i p < 2^w := by
  induction fuel generalizing r i p with
  | zero => simpa [ipowLoop]
  | succ fuel ih =>
    simp only [ipowLoop]
    split
    · exact hr
    · apply ih
      split
      · exact Nat.mod_lt _ (Nat.two_pow_pos w)
      · exact hr

theorem rp2Loop_lt (w i : Nat) : ∀ f j r, j < 2^w → rp2Loop w i f j = some r → r < 2^w := by
  intro f
  induction f with
  | zero => intro j r _ h; simp [rp2Loop] at h
  | succ f ih =>
    intro j r hj h
    simp only [rp2Loop] at h
    split at h
    · exact ih _ _ (Nat.mod_lt _ (Nat.two_pow_pos w)) h
    · cases h; exact hj

end Covfie
