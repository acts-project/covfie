import CovfieModel.Model.Heap
/-! The ownership machine move by move.  Every operation of `cstep` is one of four moves (a slot takes a fresh buffer,
    an object is destroyed, a record changes slot, a buffer is overwritten) or two of them in a row.  Each move keeps
    `HInv` and is an update of the plain value model (`alloc_sim`, `release_sim`, `move_sim`, `write_sim`); all but the
    change of slot are one slot and one address changing together (`put_sim`). -/
namespace Covfie.Heap

@[simp] theorem upd_same {α} (f : Nat → Option α) (i : Nat) (v : Option α) : upd f i v i = v := if_pos rfl
theorem upd_other {α} (f : Nat → Option α) (i j : Nat) (v : Option α) (h : j ≠ i) : upd f i v j = f j := if_neg h

theorem upd_eq {α} {f g : Nat → Option α} {i : Nat} {v : Option α} (hi : g i = v) (ho : ∀ j, j ≠ i → g j = f j) :
    g = upd f i v := by
  funext j
  by_cases e : j = i
  · rw [e, upd_same, hi]
  · rw [upd_other _ _ _ _ e, ho j e]

theorem upd_upd_same' {α} (f : Nat → Option α) (i : Nat) (x y : Option α) : upd (upd f i x) i y = upd f i y :=
  upd_eq (upd_same _ _ _) fun _ e => (upd_other _ _ _ _ e).trans (upd_other _ _ _ _ e)

theorem upd_self {α} (f : Nat → Option α) (i : Nat) (v : Option α) (h : f i = v) : upd f i v = f :=
  (upd_eq h fun _ _ => rfl).symm

theorem upd_congr {α} {f g : Nat → Option α} {j : Nat} (h : f j = g j) (i : Nat) (v : Option α) :
    upd f i v j = upd g i v j := by
  unfold upd; rw [h]

theorem upd_comm {α} (f : Nat → Option α) {i j : Nat} (h : i ≠ j) (x y : Option α) :
    upd (upd f i x) j y = upd (upd f j y) i x :=
  upd_eq ((upd_other _ _ _ _ h).trans (upd_same _ _ _)) fun _ e => upd_congr (upd_other _ _ _ _ e) j y

theorem upd_cases {α} {f : Nat → Option α} {i j : Nat} {v w : Option α} (h : upd f i v j = w) :
    j = i ∧ v = w ∨ j ≠ i ∧ f j = w := by
  unfold upd at h; split at h
  · exact .inl ⟨‹_›, h⟩
  · exact .inr ⟨‹_›, h⟩

@[simp] theorem zeros_length (n : Nat) : (zeros n).length = n := List.length_replicate

theorem free_live' (s : CState) (b : Addr) (buf : List Nat) (h : s.heap b = some buf) :
    free s (some b) = { s with heap := upd s.heap b none } := by
  simp [free, h]

theorem free_next (s : CState) (p : Option Addr) : (free s p).next = s.next := by
  unfold free; split
  · rfl
  · split <;> rfl

theorem free_slots (s : CState) (p : Option Addr) : (free s p).slots = s.slots := by
  unfold free; split
  · rfl
  · split <;> rfl

theorem free_other (s : CState) (p : Option Addr) (a : Addr) (hp : p ≠ some a) : (free s p).heap a = s.heap a := by
  unfold free; split
  · rfl
  · split
    · rfl
    · exact upd_other _ _ _ _ fun e => hp (e ▸ rfl)

theorem free_store (s : CState) (p : Option Addr) (b nx : Addr) (x : Option (List Nat)) (hp : p ≠ some b) :
    free { s with heap := upd s.heap b x, next := nx } p =
      { free s p with heap := upd (free s p).heap b x, next := nx } := by
  unfold free; split
  · rfl
  · next a =>
    have hab : a ≠ b := fun e => hp (e ▸ rfl)
    dsimp only; rw [upd_other _ _ _ _ hab]
    split
    · rfl
    · dsimp only; rw [upd_comm _ hab.symm]

theorem fresh_unowned (s : CState) (h : HInv s) : s.heap s.next = none := by
  cases hh : s.heap s.next with
  | none => rfl
  | some b => exact absurd (h.fresh s.next (by rw [hh]; nofun)) (Nat.lt_irrefl _)

theorem ptr_ne_next (s : CState) (h : HInv s) {i : Nat} {o : Own} (hs : s.slots i = some o) : o.ptr ≠ some s.next := by
  obtain ⟨n, p⟩ := o
  intro e; cases e
  obtain ⟨buf, hb, _⟩ := h.live i n s.next hs
  rw [fresh_unowned s h] at hb; cases hb

theorem ptr_ne (s : CState) (h : HInv s) {i j : Nat} (hij : j ≠ i) {o : Own} (hs : s.slots i = some o) {m : Nat} {b : Addr}
    (hj : s.slots j = some ⟨m, some b⟩) : o.ptr ≠ some b := by
  obtain ⟨n, p⟩ := o
  intro e; cases e
  exact hij (h.noalias j i m n b hj hs)

theorem srcBuf_length (s : CState) (h : HInv s) (j : Nat) (o : Own) (hs : s.slots j = some o) :
    (srcBuf s o).length = o.size := by
  obtain ⟨n, p⟩ := o
  cases p with
  | none => exact zeros_length n
  | some a =>
    obtain ⟨buf, hb, hl⟩ := h.live j n a hs
    simp only [srcBuf, hb]; exact hl

def absOwn (heap : Addr → Option (List Nat)) : Own → AVal
  | ⟨_, some a⟩ => .live ((heap a).getD [])
  | ⟨n, none⟩ => if n = 0 then .live [] else .moved n

theorem abs_eq (s : CState) (i : Nat) : abs s i = (s.slots i).map (absOwn s.heap) := by
  unfold abs absOwn
  cases h : s.slots i with
  | none => rfl
  | some o => obtain ⟨n, p⟩ := o; cases p <;> rfl

theorem abs_congr (s s' : CState) (j : Nat) (hs : s'.slots j = s.slots j)
    (hh : ∀ n a, s.slots j = some ⟨n, some a⟩ → s'.heap a = s.heap a) : abs s' j = abs s j := by
  rw [abs_eq, abs_eq, hs]
  cases hj : s.slots j with
  | none => rfl
  | some o =>
    obtain ⟨n, p⟩ := o
    cases p with
    | none => rfl
    | some a => simp only [Option.map_some, absOwn, hh n a hj]

theorem absOwn_readable (s : CState) (h : HInv s) (i : Nat) (o : Own) (hs : s.slots i = some o) :
    absOwn s.heap o = if o.readable then .live (srcBuf s o) else .moved o.size := by
  obtain ⟨n, p⟩ := o
  cases p with
  | none => by_cases e : n = 0 <;> simp [absOwn, Own.readable, srcBuf, zeros, e]
  | some a =>
    obtain ⟨buf, hb, hl⟩ := h.live i n a hs
    simp [absOwn, Own.readable, srcBuf, hb]

theorem absOwn_size (s : CState) (h : HInv s) (i : Nat) (o : Own) (hs : s.slots i = some o) :
    (absOwn s.heap o).size = o.size := by
  rw [absOwn_readable s h i o hs]
  split
  · exact srcBuf_length s h i o hs
  · rfl

theorem absOwn_copy (s : CState) (h : HInv s) (i : Nat) (o : Own) (hs : s.slots i = some o) :
    AVal.live (srcBuf s o) = (absOwn s.heap o).copyOf := by
  rw [absOwn_readable s h i o hs]
  split
  · rfl
  · next hr =>
    obtain ⟨n, p⟩ := o
    cases p with
    | some a => simp [Own.readable] at hr
    | none => rfl

def allocTo (s : CState) (i n : Nat) (B : List Nat) : CState :=
  { s with heap := upd s.heap s.next (some B), next := s.next + 1, slots := upd s.slots i (some ⟨n, some s.next⟩) }

def release (s : CState) (i : Nat) (o : Own) : CState := { free s o.ptr with slots := upd s.slots i none }

def moveTo (s : CState) (dst src : Nat) (o : Own) : CState :=
  { s with slots := upd (upd s.slots src (some ⟨o.size, none⟩)) dst (some o) }

/-- One consistent update of a slot and an address: slot `i` and address `a` take `x` together, a buffer with the record
    that owns it, or nothing.  Here `a` is slot `i`'s own buffer, or the slot owns none and `a` is free.  Nothing else needs
    looking at: the other slots and the other addresses keep what they had. -/
theorem put_sim (s : CState) (h : HInv s) (i : Nat) (a : Addr) (x : Option (List Nat)) (nx : Addr)
    (hb : (∃ n, s.slots i = some ⟨n, some a⟩) ∨
      s.heap a = none ∧ (∀ n b, s.slots i ≠ some ⟨n, some b⟩) ∧ (x ≠ none → a < nx)) (hn : s.next ≤ nx) :
    let s' : CState := { s with heap := upd s.heap a x, next := nx,
                                slots := upd s.slots i (x.map fun B => ⟨B.length, some a⟩) }
    HInv s' ∧ abs s' = upd (abs s) i (x.map .live) := by
  -- slot `i` owns no buffer but `a`
  have hi : ∀ n b, s.slots i = some ⟨n, some b⟩ → b = a := fun n b e => by
    rcases hb with ⟨_, e'⟩ | ⟨_, e', _⟩
    · cases e.symm.trans e'; rfl
    · exact absurd e (e' n b)
  -- no slot but `i` owns `a`
  have ha : ∀ j n, s.slots j = some ⟨n, some a⟩ → j = i := fun j n e => by
    rcases hb with ⟨_, e'⟩ | ⟨e', _⟩
    · exact h.noalias _ _ _ _ _ e e'
    · obtain ⟨_, hb, _⟩ := h.live j n a e
      cases hb.symm.trans e'
  -- a buffer at `a` lies below the new allocation mark
  have hx : x ≠ none → a < nx := fun hx => by
    rcases hb with ⟨n, e'⟩ | ⟨_, _, e'⟩
    · obtain ⟨_, hb, _⟩ := h.live i n a e'
      exact Nat.lt_of_lt_of_le (h.fresh a (by rw [hb]; nofun)) hn
    · exact e' hx
  have key : ∀ {j m b}, upd s.slots i (x.map fun B => ⟨B.length, some a⟩) j = some ⟨m, some b⟩ →
      j = i ∧ b = a ∧ (∃ B, x = some B ∧ B.length = m) ∨ j ≠ i ∧ b ≠ a ∧ s.slots j = some ⟨m, some b⟩ := fun hj => by
    rcases upd_cases hj with ⟨e, er⟩ | ⟨e, hj⟩
    · obtain ⟨B, hB, eB⟩ := Option.map_eq_some_iff.mp er
      cases eB; exact .inl ⟨e, rfl, B, hB, rfl⟩
    · exact .inr ⟨e, fun eb => e (ha _ _ (eb ▸ hj)), hj⟩
  refine ⟨⟨?_, ?_, ?_, ?_, h.good⟩, ?_⟩
  · intro j j' m m' b h1 h2
    rcases key h1 with ⟨e1, b1, _⟩ | ⟨_, b1, k1⟩ <;> rcases key h2 with ⟨e2, b2, _⟩ | ⟨_, b2, k2⟩
    · rw [e1, e2]
    · exact absurd b1 b2
    · exact absurd b2 b1
    · exact h.noalias _ _ _ _ _ k1 k2
  · intro b (hb : upd s.heap a x b ≠ none)
    by_cases e : b = a
    · subst e; rw [upd_same] at hb
      obtain ⟨B, hB⟩ := Option.ne_none_iff_exists'.mp hb
      exact ⟨i, B.length, (upd_same _ _ _).trans (by rw [hB]; rfl)⟩
    · rw [upd_other _ _ _ _ e] at hb
      obtain ⟨j, m, hj⟩ := h.owned b hb
      exact ⟨j, m, (upd_other _ _ _ _ fun (ej : j = i) => e (hi m b (ej ▸ hj))).trans hj⟩
  · intro j m b hj
    rcases key hj with ⟨_, eb, B, hB, hl⟩ | ⟨_, eb, k⟩
    · exact ⟨B, eb ▸ (upd_same _ _ _).trans hB, hl⟩
    · obtain ⟨buf, hb, hl⟩ := h.live j m b k
      exact ⟨buf, (upd_other _ _ _ _ eb).trans hb, hl⟩
  · intro b (hb : upd s.heap a x b ≠ none)
    by_cases e : b = a
    · subst e; rw [upd_same] at hb; exact hx hb
    · rw [upd_other _ _ _ _ e] at hb; exact Nat.lt_of_lt_of_le (h.fresh b hb) hn
  · refine upd_eq ?_ fun j e =>
      abs_congr s _ j (upd_other _ _ _ _ e) fun m b hj => upd_other _ _ _ _ fun eb => e (ha j m (eb ▸ hj))
    rw [abs_eq]
    cases x <;> simp [absOwn]

theorem alloc_sim (s : CState) (h : HInv s) (i n : Nat) (B : List Nat) (hs : s.slots i = none) (hl : B.length = n) :
    HInv (allocTo s i n B) ∧ abs (allocTo s i n B) = upd (abs s) i (some (.live B)) := by
  subst hl
  exact put_sim s h i s.next (some B) _
    (.inr ⟨fresh_unowned s h, fun n b => by rw [hs]; nofun, fun _ => Nat.lt_succ_self _⟩) (Nat.le_succ _)

theorem release_sim (s : CState) (h : HInv s) (i : Nat) (o : Own) (hs : s.slots i = some o) :
    HInv (release s i o) ∧ abs (release s i o) = upd (abs s) i none := by
  obtain ⟨n, p⟩ := o
  cases p with
  | none =>
    have := put_sim s h i s.next none s.next (.inr ⟨fresh_unowned s h, fun n b => by rw [hs]; nofun, nofun⟩) (Nat.le_refl _)
    rwa [upd_self _ _ _ (fresh_unowned s h)] at this
  | some a =>
    obtain ⟨buf, hb, _⟩ := h.live i n a hs
    unfold release; rw [free_live' s a buf hb]
    exact put_sim s h i a none s.next (.inl ⟨n, hs⟩) (Nat.le_refl _)

theorem write_sim (s : CState) (h : HInv s) (i n : Nat) (a : Addr) (B : List Nat) (hs : s.slots i = some ⟨n, some a⟩)
    (hl : B.length = n) :
    HInv { s with heap := upd s.heap a (some B) } ∧
      abs { s with heap := upd s.heap a (some B) } = upd (abs s) i (some (.live B)) := by
  subst hl
  have := put_sim s h i a (some B) s.next (.inl ⟨_, hs⟩) (Nat.le_refl _)
  rwa [Option.map_some, upd_self _ _ _ hs] at this

theorem move_sim (s : CState) (h : HInv s) (dst src : Nat) (o : Own) (hd : s.slots dst = none) (hs : s.slots src = some o) :
    HInv (moveTo s dst src o) ∧
      abs (moveTo s dst src o) = upd (upd (abs s) src ((abs s src).map AVal.movedOf)) dst (abs s src) := by
  have hne : src ≠ dst := fun e => by rw [e, hd] at hs; cases hs
  have key : ∀ {j m a}, (moveTo s dst src o).slots j = some ⟨m, some a⟩ →
      j = dst ∧ s.slots src = some ⟨m, some a⟩ ∨ j ≠ dst ∧ j ≠ src ∧ s.slots j = some ⟨m, some a⟩ := fun hj => by
    rcases upd_cases hj with ⟨e, eo⟩ | ⟨e, hj⟩
    · exact .inl ⟨e, hs.trans eo⟩
    · rcases upd_cases hj with ⟨_, eo⟩ | ⟨e', hj⟩
      · cases eo
      · exact .inr ⟨e, e', hj⟩
  refine ⟨⟨?_, ?_, ?_, h.fresh, h.good⟩, ?_⟩
  · intro i j ni nj a h1 h2
    rcases key h1 with ⟨e1, k1⟩ | ⟨e1, e1', k1⟩ <;> rcases key h2 with ⟨e2, k2⟩ | ⟨e2, e2', k2⟩
    · rw [e1, e2]
    · exact absurd (h.noalias _ _ _ _ _ k2 k1) e2'
    · exact absurd (h.noalias _ _ _ _ _ k1 k2) e1'
    · exact h.noalias _ _ _ _ _ k1 k2
  · intro a ha
    obtain ⟨j, m, hj⟩ := h.owned a ha
    by_cases e : j = src
    · exact ⟨dst, m, (upd_same _ _ _).trans (hs.symm.trans (e ▸ hj))⟩
    · have e' : j ≠ dst := fun e' => by rw [e', hd] at hj; cases hj
      exact ⟨j, m, (upd_other _ _ _ _ e').trans ((upd_other _ _ _ _ e).trans hj)⟩
  · intro j m a hj
    rcases key hj with ⟨_, k⟩ | ⟨_, _, k⟩ <;> exact h.live _ m a k
  · refine upd_eq ?_ fun j e => ?_
    · rw [abs_eq, abs_eq, hs]; simp [moveTo]
    · by_cases e' : j = src
      · rw [e', upd_same, abs_eq, abs_eq, hs]
        simp only [moveTo, upd_other _ _ _ _ hne, upd_same, Option.map_some, AVal.movedOf, absOwn_size s h src o hs]
        rfl
      · rw [upd_other _ _ _ _ e']
        exact abs_congr s _ j ((upd_other _ _ _ _ e).trans (upd_other _ _ _ _ e')) fun _ _ _ => rfl

/-- assignment of a fresh copy: the new buffer is allocated, the old one released, the new one adopted -/
theorem assign_sim (s : CState) (h : HInv s) (dst : Nat) (d : Own) (hd : s.slots dst = some d) (n : Nat) (B : List Nat)
    (hl : B.length = n) :
    let s' : CState := { free { s with heap := upd s.heap s.next (some B), next := s.next + 1 } d.ptr with
      slots := upd s.slots dst (some ⟨n, some s.next⟩) }
    HInv s' ∧ abs s' = upd (abs s) dst (some (.live B)) := by
  intro s'
  have e : s' = allocTo (release s dst d) dst n B := by
    unfold allocTo release
    simp only [s', free_store s d.ptr s.next _ _ (ptr_ne_next s h hd), free_next, upd_upd_same']
  obtain ⟨h1, e1⟩ := release_sim s h dst d hd
  obtain ⟨h2, e2⟩ := alloc_sim _ h1 dst n B (upd_same _ _ _) hl
  rw [e1, upd_upd_same'] at e2
  exact e ▸ ⟨h2, e2⟩

theorem moveAssign_sim (s : CState) (h : HInv s) (dst src : Nat) (d o : Own) (hne : dst ≠ src)
    (hd : s.slots dst = some d) (hs : s.slots src = some o) :
    let s' : CState := { free s d.ptr with slots := upd (upd s.slots src (some ⟨o.size, none⟩)) dst (some o) }
    HInv s' ∧ abs s' = upd (upd (abs s) src ((abs s src).map AVal.movedOf)) dst (abs s src) := by
  intro s'
  have e : s' = moveTo (release s dst d) dst src o := by
    unfold moveTo release
    simp only [s', upd_comm s.slots hne, upd_upd_same']
  obtain ⟨h1, e1⟩ := release_sim s h dst d hd
  obtain ⟨h2, e2⟩ := move_sim _ h1 dst src o (upd_same _ _ _) ((upd_other _ _ _ _ hne.symm).trans hs)
  rw [e1, upd_other _ _ _ _ hne.symm, upd_comm _ hne, upd_upd_same'] at e2
  exact e ▸ ⟨h2, e2⟩

/-- **forward simulation**: every operation keeps the invariant and is one operation of the plain value model.
    Where the guards of `cstep` fail, those of `astep` fail with them and both sides stay as they are.
    The states `cstep` builds are, by unfolding, those of `allocTo`, `release`, `moveTo` or two of them in a row, so the
    move lemmas apply to them as they stand. -/
theorem step_sim (s : CState) (h : HInv s) (op : Op) : HInv (cstep s op) ∧ abs (cstep s op) = astep (abs s) op := by
  cases op with
  | ctor i n =>
    dsimp only [cstep, astep]; rw [abs_eq s i]
    cases hs : s.slots i with
    | some o => exact ⟨h, rfl⟩
    | none => exact alloc_sim s h i n (zeros n) hs (zeros_length n)
  | dtor i =>
    dsimp only [cstep, astep]
    cases hs : s.slots i with
    | none => exact ⟨h, (upd_self _ _ _ (by rw [abs_eq, hs]; rfl)).symm⟩
    | some o => exact release_sim s h i o hs
  | copyCtor dst src =>
    dsimp only [cstep, astep]; rw [abs_eq s dst, abs_eq s src]
    cases hd : s.slots dst with
    | some d => exact ⟨h, rfl⟩
    | none =>
      cases hs : s.slots src with
      | none => exact ⟨h, rfl⟩
      | some o =>
        dsimp only [Option.map_none, Option.map_some]; rw [← absOwn_copy s h src o hs]
        exact alloc_sim s h dst o.size (srcBuf s o) hd (srcBuf_length s h src o hs)
  | moveCtor dst src =>
    dsimp only [cstep, astep]; rw [abs_eq s dst]
    cases hd : s.slots dst with
    | some d => exact ⟨h, rfl⟩
    | none =>
      have := move_sim s h dst src
      rw [abs_eq s src] at this ⊢
      cases hs : s.slots src with
      | none => exact ⟨h, rfl⟩
      | some o =>
        rw [hs] at this
        cases hv : absOwn s.heap o <;> rw [Option.map_some, hv] at this ⊢ <;> exact this o hd rfl
  | copyAssign dst src =>
    dsimp only [cstep, astep]; rw [abs_eq s dst, abs_eq s src]
    cases hd : s.slots dst with
    | none => exact ⟨h, rfl⟩
    | some d =>
      cases hs : s.slots src with
      | none => exact ⟨h, rfl⟩
      | some o =>
        dsimp only [Option.map_some]
        split
        · exact ⟨h, rfl⟩
        · rw [← absOwn_copy s h src o hs]
          exact assign_sim s h dst d hd o.size (srcBuf s o) (srcBuf_length s h src o hs)
  | moveAssign dst src =>
    dsimp only [cstep, astep]
    have := moveAssign_sim s h dst src
    rw [abs_eq s src] at this; rw [abs_eq s dst, abs_eq s src]
    cases hd : s.slots dst with
    | none => exact ⟨h, rfl⟩
    | some d =>
      cases hs : s.slots src with
      | none => exact ⟨h, rfl⟩
      | some o =>
        dsimp only [Option.map_some]
        split
        · exact ⟨h, rfl⟩
        · next hne => rw [hs] at this; exact this d o hne hd rfl
  | write i k v =>
    dsimp only [cstep, astep]; rw [abs_eq s i]
    cases hs : s.slots i with
    | none => exact ⟨h, rfl⟩
    | some o =>
      obtain ⟨n, p⟩ := o
      cases p with
      | none =>
        refine ⟨h, ?_⟩
        dsimp only [Option.map_some, absOwn]
        by_cases e : n = 0
        · rw [if_pos e]; exact (if_neg (Nat.not_lt_zero k)).symm
        · rw [if_neg e]
      | some a =>
        obtain ⟨buf, hb, hl⟩ := h.live i n a hs
        dsimp only [Option.map_some, absOwn]; rw [hb]; dsimp only [Option.getD_some]
        split
        · exact write_sim s h i n a _ hs ((List.length_set ..).trans hl)
        · exact ⟨h, rfl⟩
  | convert dst src =>
    dsimp only [cstep, astep]; rw [abs_eq s dst, abs_eq s src]
    cases hd : s.slots dst with
    | some d => exact ⟨h, rfl⟩
    | none =>
      cases hs : s.slots src with
      | none => exact ⟨h, rfl⟩
      | some o =>
        dsimp only [Option.map_none, Option.map_some]; rw [absOwn_readable s h src o hs]
        by_cases hr : o.readable = true
        · rw [if_pos hr, if_pos hr]
          exact alloc_sim s h dst o.size (srcBuf s o) hd (srcBuf_length s h src o hs)
        · rw [if_neg hr, if_neg hr]; exact ⟨h, rfl⟩
  | dumpLoad dst src =>
    dsimp only [cstep, astep]; rw [abs_eq s src]
    cases hs : s.slots src with
    | none => exact ⟨h, rfl⟩
    | some o =>
      dsimp only [Option.map_some]; rw [absOwn_readable s h src o hs]
      by_cases hr : o.readable = true
      · rw [if_pos hr, if_pos hr]
        cases hd : s.slots dst with
        | none => exact alloc_sim s h dst o.size (srcBuf s o) hd (srcBuf_length s h src o hs)
        | some d => exact assign_sim s h dst d hd o.size (srcBuf s o) (srcBuf_length s h src o hs)
      · rw [if_neg hr, if_neg hr]; exact ⟨h, rfl⟩

/-- **every operation preserves the invariant** -/
theorem inv_step (s : CState) (h : HInv s) (op : Op) : HInv (cstep s op) := (step_sim s h op).1

/-- **refinement**: one concrete operation is one operation of the plain value model -/
theorem refine_step (s : CState) (h : HInv s) (op : Op) : abs (cstep s op) = astep (abs s) op := (step_sim s h op).2

theorem inv_cinit : HInv cinit := by constructor <;> simp [cinit]

end Covfie.Heap
