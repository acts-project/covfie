import CovfieModel.Model.NdMap
import CovfieModel.Model.Layout
namespace Covfie

theorem mem_ndMap (sz t : List Nat) : t ∈ ndMap sz ↔ InBox sz t := by
  induction sz generalizing t with
  | nil => cases t <;> simp [ndMap, InBox]
  | cons n ns ih =>
    cases t with
    | nil => simp [ndMap, InBox]
    | cons c cs =>
      simp only [ndMap, List.mem_flatMap, List.mem_range, List.mem_map, InBox]
      constructor
      · rintro ⟨i, hi, u, hu, e⟩
        injection e with e1 e2
        subst e1 e2
        exact ⟨hi, (ih _).mp hu⟩
      · rintro ⟨h1, h2⟩
        exact ⟨c, h1, cs, (ih _).mpr h2, rfl⟩

theorem flatMap_range_block (n P : Nat) :
    (List.range n).flatMap (fun i => (List.range P).map (fun j => i * P + j)) = List.range (n * P) := by
  induction n with
  | zero => simp
  | succ n ih =>
    rw [List.range_succ, List.flatMap_append, ih, Nat.succ_mul, List.range_add]
    simp

theorem ndMap_order (sz : List Nat) : (ndMap sz).map (stridedIdx sz) = List.range (prod sz) := by
  induction sz with
  | nil => rfl
  | cons n ns ih =>
    simp only [ndMap, prod, List.map_flatMap, List.map_map]
    have : ∀ i, (ndMap ns).map (stridedIdx (n :: ns) ∘ (i :: ·)) = (List.range (prod ns)).map (fun j => i * prod ns + j) := by
      intro i
      rw [← ih, List.map_map]
      rfl
    simp only [this]
    exact flatMap_range_block n (prod ns)

/-- no tuple is visited twice, since no index is -/
theorem ndMap_nodup (sz : List Nat) : (ndMap sz).Nodup :=
  (List.pairwise_map.mp (ndMap_order sz ▸ List.nodup_range)).imp fun h e => h (congrArg _ e)

def prodL : List Nat → Nat
  | [] => 1
  | s :: ss => s * prodL ss

theorem prodL_eq (sz : List Nat) : prodL sz = prod sz := by
  induction sz with
  | nil => rfl
  | cons s ss ih => rw [prodL, prod, ih]

theorem ndMap_length (sz : List Nat) : (ndMap sz).length = prodL sz := by
  rw [prodL_eq, ← List.length_range (n := prod sz), ← ndMap_order, List.length_map]

theorem InBox_length (sz c : List Nat) (h : InBox sz c) : c.length = sz.length := by
  induction sz, c using InBox.induct with
  | case1 => rfl
  | case2 s ss c cs ih => rw [List.length_cons, ih h.2, List.length_cons]
  | case3 t x h1 h2 => exact (InBox.eq_3 t x h1 h2 ▸ h).elim

theorem inBox_getD_lt (sz c : List Nat) (h : InBox sz c) (b : Nat) (hb : ∀ s ∈ sz, s ≤ b) :
    ∀ j, j < c.length → c.getD j 0 < b := by
  induction sz, c using InBox.induct with
  | case1 => exact fun j hj => absurd hj (Nat.not_lt_zero j)
  | case2 s ss x xs ih =>
    rintro (_ | j) hj
    · exact Nat.lt_of_lt_of_le h.1 (hb s List.mem_cons_self)
    · exact ih h.2 (fun t ht => hb t (List.mem_cons_of_mem _ ht)) j (Nat.lt_of_succ_lt_succ hj)
  | case3 t x h1 h2 => exact (InBox.eq_3 t x h1 h2 ▸ h).elim

end Covfie
