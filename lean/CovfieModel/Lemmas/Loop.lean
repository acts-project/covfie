import CovfieModel.Model.RImp
/-! Loops in the abstract. `wloop` is the fuel loop of `RImp.exec`, and `Imp.exec`'s own `whileLoop` is the same function
(`Imp.whileLoop_eq_wloop`); `iter` is its form on an abstract state,
`iterN` the `d`-fold application.

Counting loops: the state is split three ways — the counter `k`, the part `s` the caller follows (one pass takes it to
`step k s`), and the rest `j` (dead variables, counters of inner loops), of which the body's specification and the
conclusion say only that some value exists. `wloop_for` is the one induction; `RImp.exec_for` and `Imp.exec_for` state it
for `for (c = …; c < bound; ++c) body` in either kernel language, and the kernels' proofs go through these. `iter_count`
states a counting loop the other way, as `iterN` of a step that carries the counter (`iterN_counter`, `iterN_count` relate the two). -/
namespace Covfie.RImp

theorem wloop_for {σ β γ : Type} (cond : σ → Bool) (body : σ → Option σ) (n : Nat)
    (st : Nat → β → γ → σ) (step : Nat → β → β)
    (hc : ∀ k s j, cond (st k s j) = decide (k < n))
    (hb : ∀ k s j, k < n → ∃ j', body (st k s j) = some (st (k + 1) (step k s) j')) :
    ∀ d k s j f, k + d = n → d < f →
      ∃ j', wloop cond body f (st k s j) = some (st n ((List.range' k d).foldl (fun s k => step k s) s) j') := by
  intro d
  induction d with
  | zero =>
    intro k s j f hk hf
    cases f with
    | zero => exact absurd hf (Nat.lt_irrefl 0)
    | succ f => subst hk; exact ⟨j, by simp [wloop, hc]⟩
  | succ d ih =>
    intro k s j f hk hf
    cases f with
    | zero => exact absurd hf (Nat.not_lt_zero _)
    | succ f =>
      have hkn : k < n := hk ▸ Nat.lt_add_of_pos_right (Nat.succ_pos d)
      obtain ⟨j₁, h₁⟩ := hb k s j hkn
      obtain ⟨j', h'⟩ := ih (k + 1) (step k s) j₁ f (by rw [← hk, Nat.add_right_comm, Nat.add_assoc]) (Nat.lt_of_succ_lt_succ hf)
      exact ⟨j', by simp [wloop, hc, hkn, h₁, h', List.range'_succ]⟩

theorem wloop_mono {σ : Type} (cond : σ → Bool) (body : σ → Option σ) : ∀ f s r, wloop cond body f s = some r →
    ∀ g, f ≤ g → wloop cond body g s = some r := by
  intro f
  induction f with
  | zero => intro s r h; cases h
  | succ f ih =>
    intro s r h g hg
    cases g with
    | zero => exact absurd hg (Nat.not_succ_le_zero f)
    | succ g =>
      simp only [wloop] at h ⊢
      split
      · rename_i hc
        rw [if_pos hc] at h
        cases hb : body s with
        | none => simp [hb] at h
        | some e => simp only [hb, Option.bind_some] at h ⊢; exact ih _ _ h _ (Nat.le_of_succ_le_succ hg)
      · rename_i hc; rw [if_neg hc] at h; exact h

end Covfie.RImp

namespace Covfie.Imp
open Covfie.RImp (wloop wloop_mono)

/-- the abstract counterpart of `whileLoop` -/
def iter {α : Type} (c : α → Bool) (step : α → α) : Nat → α → Option α
  | 0, _ => none
  | f+1, a => if c a then iter c step f (step a) else some a

theorem iter_inv {α : Type} (c : α → Bool) (step : α → α) (P : α → Prop)
    (hP : ∀ a, P a → c a = true → P (step a)) : ∀ f a r, P a → iter c step f a = some r → P r ∧ c r = false := by
  intro f
  induction f with
  | zero => intro a r _ h; simp [iter] at h
  | succ f ih =>
    intro a r ha h
    simp only [iter] at h
    cases hc : c a with
    | true => rw [hc] at h; exact ih _ _ (hP a ha hc) h
    | false => rw [hc] at h; simp at h; subst h; exact ⟨ha, hc⟩

/-- `L` is a specification given as a recursion on fuel (`ipowLoop`, `hilLoop`): it takes the loop's steps and returns
`out` at `m = 0`. -/
theorem iter_halving {α β : Type} (m : α → Nat) (step : α → α) (L : Nat → α → β) (out : α → β)
    (hm : ∀ a, m (step a) = m a / 2) (hL : ∀ f a, L (f + 1) a = if m a = 0 then out a else L f (step a)) :
    ∀ f a, m a < 2^f → ∃ r, iter (fun a => decide (m a ≠ 0)) step (f + 1) a = some r ∧ L (f + 1) a = out r := by
  intro f
  induction f with
  | zero => intro a h; exact ⟨a, by simp [iter, show m a = 0 by omega], by rw [hL, if_pos (by omega)]⟩
  | succ f ih =>
    intro a h
    by_cases h0 : m a = 0
    · exact ⟨a, by simp [iter, h0], by rw [hL, if_pos h0]⟩
    · obtain ⟨r, e1, e2⟩ := ih (step a) (by rw [hm, Nat.pow_succ] at *; omega)
      exact ⟨r, by rw [iter, if_pos (by simpa using h0)]; exact e1, by rw [hL, if_neg h0]; exact e2⟩

theorem iter_eq_wloop {α : Type} (c : α → Bool) (step : α → α) :
    ∀ f a, iter c step f a = Covfie.RImp.wloop c (fun a => some (step a)) f a := by
  intro f
  induction f with
  | zero => intro _; rfl
  | succ f ih => intro a; simp only [iter, Covfie.RImp.wloop, Option.bind_some, ih]

theorem iter_mono {α : Type} (c : α → Bool) (step : α → α) : ∀ f a r, iter c step f a = some r →
    ∀ g, f ≤ g → iter c step g a = some r := by
  simp only [iter_eq_wloop]; exact Covfie.RImp.wloop_mono _ _

def iterN {α : Type} (step : α → α) : Nat → α → α
  | 0, a => a
  | d+1, a => iterN step d (step a)

theorem iterN_succ' {α : Type} (step : α → α) : ∀ d a, iterN step (d+1) a = step (iterN step d a) := by
  intro d
  induction d with
  | zero => intro a; rfl
  | succ d ih => intro a; rw [iterN, ih (step a)]; rfl

theorem iterN_counter {β : Type} (g : Nat → β → β) : ∀ n s k,
    iterN (fun p : β × Nat => (g p.2 p.1, p.2 + 1)) n (s, k) = ((List.range' k n).foldl (fun s k => g k s) s, k + n) := by
  intro n
  induction n with
  | zero => intro s k; rfl
  | succ n ih => intro s k; rw [iterN, ih, List.range'_succ, List.foldl_cons]; congr 1; omega

theorem iterN_count {σ : Type} (cnt : σ → Nat) (step : σ → σ) (h : ∀ s, cnt (step s) = cnt s + 1) :
    ∀ n s, cnt (iterN step n s) = cnt s + n := by
  intro n
  induction n with
  | zero => intro s; rfl
  | succ n ih => intro s; rw [iterN, ih, h]; omega

theorem iter_count {α : Type} (cnt : α → Nat) (n : Nat) (step : α → α)
    (hs : ∀ a, cnt a < n → cnt (step a) = cnt a + 1) :
    ∀ d a, n - cnt a = d → ∀ f, d < f →
      iter (fun a => decide (cnt a < n)) step f a = some (iterN step d a) := by
  intro d
  induction d with
  | zero =>
    intro a hd f hf
    cases f with
    | zero => exact absurd hf (Nat.lt_irrefl 0)
    | succ f =>
      have : ¬ cnt a < n := Nat.not_lt.mpr (Nat.sub_eq_zero_iff_le.mp hd)
      simp only [iter, this, decide_false, Bool.false_eq_true, if_false, iterN]
  | succ d ih =>
    intro a hd f hf
    cases f with
    | zero => exact absurd hf (Nat.not_lt_zero _)
    | succ f =>
      have h : cnt a < n := Nat.lt_of_sub_pos (hd ▸ Nat.succ_pos d)
      simp only [iter, h, decide_true, if_true, iterN]
      exact ih (step a) (by rw [hs a h, Nat.sub_add_eq, hd]; rfl) f (Nat.lt_of_succ_lt_succ hf)

end Covfie.Imp
