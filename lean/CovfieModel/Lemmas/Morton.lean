import CovfieModel.Model.Layout
import CovfieModel.Lemmas.Radix
/-! The Morton index bit by bit: bit `p` of the portable loop `mortonLoop` is bit `p / N` of coordinate `p % N`; so is bit `p`
of the BMI2 form `mortonPdep` (`pdep` under the masks `mortonMask`), hence the two agree on coordinates below `2^(64/N)`. -/
namespace Covfie

theorem testBit_and_one_shl_shl (x i s p : Nat) :
    ((x &&& (1 <<< i)) <<< s).testBit p = (decide (p = s + i) && x.testBit i) := by
  rw [Nat.testBit_shiftLeft, Nat.testBit_and, Nat.one_shiftLeft, Nat.testBit_two_pow]
  by_cases h : p = s + i
  · subst h; simp
  · have : ¬ (s ≤ p ∧ i = p - s) := by omega
    simp [h]; omega

theorem mInner_testBit (N i : Nat) (c : Nat → Nat) (hN : 0 < N) (J : Nat) (hJ : J ≤ N) (p : Nat) :
    (mInner N i c J).testBit p = (decide (p / N = i ∧ p % N < J) && (c (p % N)).testBit i) := by
  induction J with
  | zero => simp [mInner]
  | succ j ih =>
    have key : i * (N - 1) + j + i = i * N + j := by
      obtain ⟨n, rfl⟩ : ∃ n, N = n + 1 := ⟨N - 1, by omega⟩
      rw [Nat.add_sub_cancel, Nat.mul_succ]; omega
    have hd : decide (p = i * N + j) = decide (p / N = i ∧ p % N = j) :=
      decide_eq_decide.mpr (radix_iff i p (by omega))
    rw [mInner, Nat.testBit_or, ih (by omega), testBit_and_one_shl_shl, key, hd]
    by_cases h : p % N = j
    · subst h; simp
    · have : p % N < j + 1 ↔ p % N < j := by omega
      simp [h, this]

theorem mOuter_testBit (N : Nat) (c : Nat → Nat) (hN : 0 < N) (B p : Nat) :
    (mOuter N c B).testBit p = (decide (p / N < B) && (c (p % N)).testBit (p / N)) := by
  induction B with
  | zero => simp [mOuter]
  | succ b ih =>
    rw [mOuter, Nat.testBit_or, ih, mInner_testBit N b c hN N (Nat.le_refl _)]
    have hm : p % N < N := Nat.mod_lt _ hN
    by_cases h : p / N = b
    · subst h; simp [hm]
    · have : p / N < b + 1 ↔ p / N < b := by omega
      simp [h, this]

theorem mortonLoop_testBit (c : List Nat) (hN : 0 < c.length) (p : Nat) :
    (mortonLoop c).testBit p =
      (decide (p / c.length < 64 / c.length) && (c.getD (p % c.length) 0).testBit (p / c.length)) := by
  unfold mortonLoop
  rw [Nat.testBit_mod_two_pow, mOuter_testBit _ _ hN]
  by_cases h : p / c.length < 64 / c.length
  · simp [h, Nat.lt_of_div_lt_div h]
  · simp [h]

theorem testBit_false_of_lt (x k i : Nat) (hx : x < 2^k) (hi : k ≤ i) : x.testBit i = false := by
  apply Nat.testBit_lt_two_pow
  exact Nat.lt_of_lt_of_le hx (Nat.pow_le_pow_right (by omega) hi)

theorem mortonLoop_lt (c : List Nat) (k : Nat) (hN : 0 < c.length)
    (hc : ∀ j, j < c.length → c.getD j 0 < 2^k) : mortonLoop c < 2^(k * c.length) := by
  apply Nat.lt_pow_two_of_testBit
  intro p hp
  rw [mortonLoop_testBit c hN]
  have hk : k ≤ p / c.length := by
    rw [Nat.le_div_iff_mul_le hN]; exact hp
  have := testBit_false_of_lt _ k (p / c.length) (hc (p % c.length) (Nat.mod_lt _ hN)) hk
  rw [this, Bool.and_false]

theorem mortonLoop_inj (c c' : List Nat) (hl : c.length = c'.length) (hN : 0 < c.length)
    (hc : ∀ j, j < c.length → c.getD j 0 < 2^(64 / c.length))
    (hc' : ∀ j, j < c'.length → c'.getD j 0 < 2^(64 / c'.length))
    (e : mortonLoop c = mortonLoop c') : c = c' := by
  apply List.ext_getElem hl
  intro j h1 h2
  have hj : c.getD j 0 = c'.getD j 0 := by
    apply Nat.eq_of_testBit_eq
    intro i
    by_cases hi : i < 64 / c.length
    · have hb := congrArg (fun x => x.testBit (i * c.length + j)) e
      have hN' : 0 < c'.length := by omega
      rw [mortonLoop_testBit c hN, mortonLoop_testBit c' hN'] at hb
      rw [← hl, (radix_div_mod i h1).1, (radix_div_mod i h1).2] at hb
      simpa [hi] using hb
    · have a := testBit_false_of_lt _ _ i (hc j h1) (by omega)
      have b := testBit_false_of_lt _ _ i (hc' j h2) (by rw [← hl]; omega)
      rw [a, b]
  simpa [List.getD_eq_getElem?_getD, h1, h2] using hj

theorem testBit_two_pow_or (b : Bool) (pos x p : Nat) :
    ((if b then 2^pos else 0) ||| x).testBit p = ((b && decide (p = pos)) || x.testBit p) := by
  cases b <;> simp [Nat.testBit_two_pow, eq_comm]

/-- number of mask bits strictly below `pos`: `(pos - I) / N` rounded up -/
def maskRank (N I pos : Nat) : Nat := (pos - I + (N - 1)) / N

theorem maskRank_eq {N : Nat} (I pos : Nat) (hN : 0 < N) :
    maskRank N I pos = (pos - I) / N + if (pos - I) % N = 0 then 0 else 1 := by
  unfold maskRank
  rw [Nat.add_div hN, Nat.div_eq_of_lt (by omega : N - 1 < N), Nat.mod_eq_of_lt (by omega : N - 1 < N)]
  split <;> split <;> omega

theorem maskRank_succ {N I pos : Nat} (hN : 0 < N) (hI : I ≤ pos) : maskRank N I (pos + 1) = (pos - I) / N + 1 := by
  unfold maskRank
  rw [show pos + 1 - I + (N - 1) = pos - I + N by omega, Nat.add_div_right _ hN]

/-- invariant of the PDEP loop on the strided mask `maskBit N I`: at `pos` the next source bit is number `maskRank N I pos`,
    and what is still to come are the mask positions `p ≥ pos`, each taking source bit `(p - I) / N` -/
theorem pdepAux_testBit (src mask N I : Nat) (hN : 0 < N)
    (hm : ∀ p, mask.testBit p = maskBit N I p) :
    ∀ fuel pos, pos + fuel = 64 → ∀ p,
      (pdepAux src mask fuel pos (maskRank N I pos)).testBit p =
        (decide (pos ≤ p) && maskBit N I p && src.testBit ((p - I) / N)) := by
  intro fuel
  induction fuel with
  | zero =>
    intro pos hpos p
    have : (decide (pos ≤ p) && maskBit N I p) = false := by simp [maskBit]; omega
    simp [pdepAux, this]
  | succ f ih =>
    intro pos hpos p
    have hle : p ≠ pos → decide (pos + 1 ≤ p) = decide (pos ≤ p) := fun h => decide_eq_decide.mpr (by omega)
    rw [pdepAux, hm pos]
    by_cases hb : maskBit N I pos = true
    · have hb' := hb
      simp only [maskBit, decide_eq_true_eq] at hb'
      rw [if_pos hb, maskRank_eq I pos hN, if_pos hb'.2.2, Nat.add_zero, ← maskRank_succ hN hb'.2.1, testBit_two_pow_or,
        ih (pos + 1) (by omega) p]
      by_cases hp : p = pos
      · subst hp; simp [hb]
      · simp [hp, hle hp]
    · have hk : maskRank N I (pos + 1) = maskRank N I pos := by
        rcases Nat.lt_or_ge pos I with hI | hI
        · rw [maskRank, maskRank, show pos + 1 - I = pos - I by omega]
        · rw [maskRank_succ hN hI, maskRank_eq I pos hN, if_neg (fun hmod => hb (by simp [maskBit]; omega))]
      rw [if_neg hb, ← hk, ih (pos + 1) (by omega) p]
      by_cases hp : p = pos
      · subst hp; simp [hb]
      · rw [hle hp]

theorem pdep_testBit (src mask N I : Nat) (hN : 0 < N) (hm : ∀ p, mask.testBit p = maskBit N I p) (p : Nat) :
    (pdep src mask).testBit p = (maskBit N I p && src.testBit ((p - I) / N)) := by
  have := pdepAux_testBit src mask N I hN hm 64 0 rfl p
  rwa [show maskRank N I 0 = 0 from Nat.div_eq_of_lt (by omega), decide_eq_true (Nat.zero_le p), Bool.true_and] at this

theorem foldl_or_testBit (L : List Nat) (f : Nat → Nat) (acc p : Nat) :
    (L.foldl (fun a j => a ||| f j) acc).testBit p = (acc.testBit p || L.any (fun j => (f j).testBit p)) := by
  induction L generalizing acc with
  | nil => simp
  | cons x xs ih => simp [List.foldl_cons, ih, Nat.testBit_or, Bool.or_assoc]

theorem mortonMask_testBit (N I p : Nat) : (mortonMask N I).testBit p = maskBit N I p := by
  unfold mortonMask maskBit
  rw [Nat.testBit_mod_two_pow, Nat.testBit_shiftLeft, foldl_or_testBit]
  simp only [Nat.zero_testBit, Bool.false_or, Nat.testBit_two_pow]
  by_cases h1 : p < 64 <;> by_cases h2 : I ≤ p <;> simp [h1, h2]
  -- left: `p < 64`, `I ≤ p`; bit `p - I` of the OR of the `2^j`, `j < 64`, `j % N = 0`
  apply Bool.eq_iff_iff.mpr
  simp only [List.any_eq_true, List.mem_range, Bool.and_eq_true, decide_eq_true_eq]
  constructor
  · rintro ⟨x, hx1, hx2, hx3⟩; subst hx3; exact hx2
  · intro h; exact ⟨p - I, by omega, h, rfl⟩

theorem maskBit_iff {N i p : Nat} (hi : i < N) : maskBit N i p = true ↔ p < 64 ∧ p % N = i := by
  simp only [maskBit, decide_eq_true_eq]
  constructor
  · rintro ⟨hp, hle, hmod⟩
    have hd := Nat.div_add_mod' (p - i) N
    have h := (radix_div_mod ((p - i) / N) hi).2
    rw [show (p - i) / N * N + i = p by omega] at h
    exact ⟨hp, h⟩
  · rintro ⟨hp, rfl⟩
    have hd := Nat.div_add_mod' p N
    exact ⟨hp, Nat.mod_le _ _, by rw [show p - p % N = p / N * N by omega, Nat.mul_mod_left]⟩

theorem mortonPdep_testBit (c : List Nat) (hN : 0 < c.length) (p : Nat) :
    (mortonPdep c).testBit p = (decide (p < 64) && (c.getD (p % c.length) 0).testBit (p / c.length)) := by
  unfold mortonPdep
  rw [foldl_or_testBit, Nat.zero_testBit, Bool.false_or]
  have hm := Nat.mod_lt p hN
  apply Bool.eq_iff_iff.mpr
  simp only [List.any_eq_true, List.mem_range, Bool.and_eq_true, decide_eq_true_eq,
    pdep_testBit _ _ c.length _ hN (mortonMask_testBit c.length _), Nat.testBit_mod_two_pow]
  constructor
  · rintro ⟨i, hi, hmask, -, hb⟩
    obtain ⟨hp, rfl⟩ := (maskBit_iff hi).mp hmask
    rw [← Nat.div_eq_sub_mod_div] at hb
    exact ⟨hp, hb⟩
  · rintro ⟨hp, hb⟩
    refine ⟨p % c.length, hm, (maskBit_iff hm).mpr ⟨hp, rfl⟩, ?_⟩
    rw [← Nat.div_eq_sub_mod_div]
    exact ⟨Nat.lt_of_le_of_lt (Nat.div_le_self _ _) hp, hb⟩

theorem mortonPdep_eq_loop (c : List Nat) (hN : 0 < c.length)
    (hc : ∀ j, j < c.length → c.getD j 0 < 2^(64 / c.length)) : mortonPdep c = mortonLoop c := by
  apply Nat.eq_of_testBit_eq
  intro p
  rw [mortonPdep_testBit c hN, mortonLoop_testBit c hN]
  by_cases h : p / c.length < 64 / c.length
  · simp [h, Nat.lt_of_div_lt_div h]
  · have := testBit_false_of_lt _ _ (p / c.length) (hc (p % c.length) (Nat.mod_lt _ hN)) (by omega)
    rw [this]; simp

end Covfie
