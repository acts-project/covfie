import CovfieModel.Model.Perm
namespace Covfie

theorem filter_split_perm (p : Nat) (xs : List Nat) :
    (xs.filter (· < p) ++ xs.filter (fun x => decide (x ≥ p))).Perm xs := by
  have : (fun x => decide (x ≥ p)) = fun x => !decide (x < p) :=
    funext fun x => by rw [← decide_not]; exact decide_eq_decide.mpr Nat.not_lt.symm
  rw [this]; exact List.filter_append_perm _ xs

/-- Induction along the recursion of the sort: a relation that holds of `[]`, `[]` and is kept by the pivot step holds
    between a sequence and its sort. The one place where fuel is compared with length. -/
theorem sortFuel_rel {R : List Nat → List Nat → Prop} (nil : R [] [])
    (cons : ∀ p xs ys zs, R (xs.filter (· < p)) ys → R (xs.filter (fun x => decide (x ≥ p))) zs →
      R (p :: xs) (ys ++ p :: zs))
    (f : Nat) (l : List Nat) (h : l.length ≤ f) : R l (sortFuel f l) := by
  induction f generalizing l with
  | zero => rw [List.length_eq_zero_iff.mp (Nat.le_zero.mp h)]; exact nil
  | succ f ih =>
    cases l with
    | nil => exact nil
    | cons p xs =>
      have hf {q : Nat → Bool} : (xs.filter q).length ≤ f :=
        Nat.le_trans (List.length_filter_le q xs) (Nat.le_of_succ_le_succ h)
      exact cons p xs _ _ (ih _ hf) (ih _ hf)

theorem sortFuel_spec (f : Nat) (l : List Nat) (h : l.length ≤ f) :
    (sortFuel f l).Perm l ∧ (sortFuel f l).Pairwise (· ≤ ·) := by
  refine sortFuel_rel (R := fun l r => r.Perm l ∧ r.Pairwise (· ≤ ·)) ⟨.nil, .nil⟩ ?_ f l h
  intro p xs ys zs ⟨py, sy⟩ ⟨pz, sz⟩
  have hy : ∀ a ∈ ys, a < p := fun a ha => of_decide_eq_true (List.mem_filter.mp (py.mem_iff.mp ha)).2
  have hz : ∀ a ∈ zs, p ≤ a := fun a ha => of_decide_eq_true (List.mem_filter.mp (pz.mem_iff.mp ha)).2
  refine ⟨List.perm_middle.trans (((py.append pz).trans (filter_split_perm p xs)).cons p), ?_⟩
  rw [List.pairwise_append, List.pairwise_cons]
  refine ⟨sy, ⟨hz, sz⟩, fun a ha b hb => ?_⟩
  rcases List.mem_cons.mp hb with rfl | hb
  · exact Nat.le_of_lt (hy a ha)
  · exact Nat.le_trans (Nat.le_of_lt (hy a ha)) (hz b hb)

theorem sorted_perm_unique {a b : List Nat} (sa : a.Pairwise (· ≤ ·)) (sb : b.Pairwise (· ≤ ·)) (h : a.Perm b) :
    a = b :=
  List.Perm.eq_of_pairwise (fun _ _ _ _ => Nat.le_antisymm) sa sb h

/-- any sufficient fuel gives the same sequence: the sorted rearrangement is unique -/
theorem sortFuel_eq_sortSeq (f : Nat) (l : List Nat) (h : l.length ≤ f) : sortFuel f l = sortSeq l :=
  have ⟨p, s⟩ := sortFuel_spec f l h
  have ⟨p', s'⟩ := sortFuel_spec _ l (Nat.le_refl _)
  sorted_perm_unique s s' (p.trans p'.symm)

theorem sortSeq_cons (p : Nat) (xs : List Nat) :
    sortSeq (p :: xs) = sortSeq (xs.filter (· < p)) ++ p :: sortSeq (xs.filter (fun x => decide (x ≥ p))) := by
  show sortFuel (xs.length + 1) (p :: xs) = _
  rw [sortFuel, sortFuel_eq_sortSeq _ _ (List.length_filter_le _ _), sortFuel_eq_sortSeq _ _ (List.length_filter_le _ _)]

end Covfie
