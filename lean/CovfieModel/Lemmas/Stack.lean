import CovfieModel.Model.Stack
/-! What the definitions of Model/Stack.lean do, stated once: `mapE` as an equation between lists, the coordinate lists the
    layers build (`zip3With`, `corners`, `addBits`, natural numbers through `natOf`), and, for each backend or layer that can
    fail, what a successful lookup consists of. -/
namespace Covfie

theorem mapE_eq_ok {α β ε} {f : α → Except ε β} {l : List α} {r : List β} :
    mapE f l = .ok r ↔ l.map f = r.map .ok := by
  induction l generalizing r with
  | nil => cases r <;> simp [mapE]
  | cons a as ih =>
    cases r with
    | nil => cases hf : f a <;> cases hm : mapE f as <;> simp [mapE, hf, hm]
    | cons b bs =>
      rw [List.map_cons, List.map_cons, List.cons.injEq, ← ih]
      cases hf : f a <;> cases hm : mapE f as <;> simp [mapE, hf, hm]

theorem mapE_congr {α β ε} {f g : α → Except ε β} {l : List α} (h : ∀ a ∈ l, f a = g a) : mapE f l = mapE g l := by
  induction l with
  | nil => rfl
  | cons a as ih =>
    simp only [mapE, h a List.mem_cons_self, ih (fun x hx => h x (List.mem_cons_of_mem _ hx))]

theorem mapE_length {α β ε} {f : α → Except ε β} {l : List α} {r : List β} (h : mapE f l = .ok r) :
    r.length = l.length := by
  simpa using (congrArg List.length (mapE_eq_ok.1 h)).symm

theorem mapE_mem {α β ε} {f : α → Except ε β} {l : List α} {r : List β} (h : mapE f l = .ok r) {b : β} (hb : b ∈ r) :
    ∃ a ∈ l, f a = .ok b :=
  List.mem_map.1 (mapE_eq_ok.1 h ▸ List.mem_map_of_mem hb)

theorem mapE_mono {α β ε} {f g : α → Except ε β} {l : List α} {r : List β} (h : mapE f l = .ok r)
    (hg : ∀ a ∈ l, ∀ b ∈ r, f a = .ok b → g a = .ok b) : mapE g l = .ok r := by
  rw [mapE_eq_ok] at h ⊢
  rw [← h]
  refine List.map_congr_left fun a ha => ?_
  obtain ⟨b, hb, e⟩ := List.mem_map.1 (h ▸ List.mem_map_of_mem ha)
  rw [← e]; exact hg a ha b hb e.symm

theorem mapE_map_ok {α β γ ε} {f : β → Except ε γ} {g : α → β} {k : α → γ} {l : List α}
    (h : ∀ a ∈ l, f (g a) = .ok (k a)) : mapE f (l.map g) = .ok (l.map k) :=
  mapE_eq_ok.2 (by rw [List.map_map, List.map_map]; exact List.map_congr_left h)

theorem mapE_ok_of_forall {α β ε} {f : α → Except ε β} (Q : β → Prop) {l : List α}
    (h : ∀ a ∈ l, ∃ b, f a = .ok b ∧ Q b) : ∃ bs, mapE f l = .ok bs ∧ ∀ b ∈ bs, Q b := by
  induction l with
  | nil => exact ⟨[], rfl, by simp⟩
  | cons a as ih =>
    obtain ⟨b, hb, qb⟩ := h a List.mem_cons_self
    obtain ⟨bs, hbs, qbs⟩ := ih (fun x hx => h x (List.mem_cons_of_mem _ hx))
    exact ⟨b :: bs, by simp [mapE, hb, hbs], List.forall_mem_cons.2 ⟨qb, qbs⟩⟩

theorem zip3With_length {α β γ δ} (f : α → β → γ → δ) : ∀ (as : List α) (bs : List β) (cs : List γ),
    (zip3With f as bs cs).length = min as.length (min bs.length cs.length)
  | [], _, _ => (Nat.zero_min _).symm
  | _ :: _, [], _ => by simp [zip3With]
  | _ :: _, _ :: _, [] => by simp [zip3With]
  | _ :: as, _ :: bs, _ :: cs => by
    simp only [zip3With, List.length_cons, zip3With_length f as bs cs, Nat.succ_min_succ]

theorem length_of_mem_corners {n : Nat} {bs : List Bool} (h : bs ∈ corners n) : bs.length = n := by
  induction n generalizing bs with
  | zero => simp [corners] at h; subst h; rfl
  | succ n ih =>
    simp only [corners, List.mem_flatMap, List.mem_cons, List.not_mem_nil, or_false] at h
    obtain ⟨b, hb, rfl | rfl⟩ := h <;> simp [ih hb]

theorem corners_ne_nil (n : Nat) : corners n ≠ [] := by
  induction n with
  | zero => simp [corners]
  | succ n ih =>
    cases h : corners n with
    | nil => exact absurd h ih
    | cons a as => simp [corners, h]

theorem addBits_length {is : List Nat} {bs : List Bool} {n : Nat} (h1 : is.length = n) (h2 : bs.length = n) :
    (addBits is bs).length = n := by
  simp [addBits, h1, h2]

theorem addBits_eq_map (is : List Nat) (bs : List Bool) :
    addBits is bs = (List.zipWith (fun i b => i + (if b then 1 else 0)) is bs).map fun (n : Nat) => Num.fin (n : Rat) := by
  simp [addBits, List.map_zipWith]

theorem natOf_natCast (n : Nat) : natOf (.fin (n : Rat)) = .ok n := by
  simp [natOf]

theorem mapE_natOf_natCast (c : List Nat) : mapE natOf (c.map fun (n : Nat) => Num.fin (n : Rat)) = .ok c := by
  simpa using mapE_map_ok (k := id) fun n _ => natOf_natCast n

theorem arrayB_eq_ok {cells : List (List Num)} {c v : List Num} {t : List Nat} :
    arrayB cells c = .ok (v, t) ↔ ∃ i : Nat, c = [.fin (i : Rat)] ∧ cells[i]? = some v ∧ t = [i] := by
  constructor
  · intro h
    unfold arrayB at h
    split at h
    · rename_i q
      split at h
      · rename_i hq
        refine ⟨q.num.toNat, ?_, ?_⟩
        · congr 2
          apply Rat.ext <;> simp [hq.1, Int.toNat_of_nonneg hq.2]
        · cases hc : cells[q.num.toNat]? <;> simp_all
      · cases h
    · cases h
  · rintro ⟨i, rfl, hi, rfl⟩
    simp [arrayB, hi]

theorem cornerQuery_eq_ok {bk : Backend} {is : List Nat} {bs : List Bool} {r : List Bool × (List Num × List Nat)} :
    cornerQuery bk is bs = .ok r ↔ bk (addBits is bs) = .ok r.2 ∧ r.1 = bs := by
  unfold cornerQuery
  cases bk (addBits is bs) <;> simp [Prod.ext_iff, eq_comm, and_comm]

theorem layoutL_eq_ok {idx : List Nat → Nat} {bk : Backend} {c : List Num} {r : List Num × List Nat} :
    layoutL idx bk c = .ok r ↔ ∃ cs, mapE natOf c = .ok cs ∧ bk [.fin (idx cs : Nat)] = .ok r := by
  unfold layoutL; cases mapE natOf c <;> simp

theorem nnL_eq_ok {bk : Backend} {c : List Num} {r : List Num × List Nat} :
    nnL bk c = .ok r ↔ ∃ nc, mapE lrintIdx c = .ok nc ∧ bk nc = .ok r := by
  unfold nnL; cases mapE lrintIdx c <;> simp

theorem affineL_eq_ok {m : List (List Rat)} {bk : Backend} {c : List Num} {r : List Num × List Nat} :
    affineL m bk c = .ok r ↔ ∃ x, mapO finOf c = some x ∧ bk (m.map fun row => .fin (affineRow row x)) = .ok r := by
  unfold affineL; cases mapO finOf c <;> simp

theorem castL_eq_ok {conv : Num → Except UB Num} {bk : Backend} {c v' : List Num} {t : List Nat} :
    castL conv bk c = .ok (v', t) ↔ ∃ v, bk c = .ok (v, t) ∧ mapE conv v = .ok v' := by
  unfold castL
  cases bk c with
  | error e => simp
  | ok r =>
    obtain ⟨v, t₀⟩ := r
    cases h : mapE conv v <;> simp [h, and_assoc, and_comm, eq_comm]

theorem linearL_congr {b₁ b₂ : Backend} {c : List Num} {parts : List (Nat × Rat)} (hp : mapE truncIdx c = .ok parts)
    (h : mapE (cornerQuery b₁ (parts.map (·.1))) (corners c.length) =
         mapE (cornerQuery b₂ (parts.map (·.1))) (corners c.length)) : linearL b₁ c = linearL b₂ c := by
  unfold linearL; simp only [hp, h]

/-- the last clause: as many output components as the corner values have, whatever that number is -/
theorem linearL_of_ok {bk : Backend} {c v : List Num} {t : List Nat} (h : linearL bk c = .ok (v, t)) :
    ∃ parts rs, mapE truncIdx c = .ok parts ∧
      mapE (cornerQuery bk (parts.map (·.1))) (corners c.length) = .ok rs ∧ t = rs.flatMap (·.2.2) ∧
      ∀ M, (∀ r ∈ rs, r.2.1.length = M) → v.length = M := by
  unfold linearL at h
  cases hp : mapE truncIdx c with
  | error e => simp [hp] at h
  | ok parts =>
    cases hrs : mapE (cornerQuery bk (parts.map (·.1))) (corners c.length) with
    | error e => simp [hp, hrs] at h
    | ok rs =>
      simp only [hp, hrs, Except.ok.injEq, Prod.mk.injEq] at h
      refine ⟨parts, rs, rfl, hrs, h.2.symm, fun M hM => ?_⟩
      cases rs with
      | nil => exact absurd (List.length_eq_zero_iff.1 (mapE_length hrs).symm) (corners_ne_nil _)
      | cons r _ => simp [← h.1, hM r List.mem_cons_self]

theorem linearL_ok {bk : Backend} {c : List Num} {parts : List (Nat × Rat)}
    {rs : List (List Bool × (List Num × List Nat))} (hp : mapE truncIdx c = .ok parts)
    (hrs : mapE (cornerQuery bk (parts.map (·.1))) (corners c.length) = .ok rs) :
    ∃ v, linearL bk c = .ok (v, rs.flatMap (·.2.2)) := by
  unfold linearL; simp only [hp, hrs]; exact ⟨_, rfl⟩

end Covfie
