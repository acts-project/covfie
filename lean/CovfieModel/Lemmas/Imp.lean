import CovfieModel.Model.Imp
import CovfieModel.Lemmas.Loop
import CovfieModel.Lemmas.ImpAttr
/-! Generic facts about `Covfie.Imp.exec`: its equations, straight-line code on an environment written out as lists,
simulation of a `while` by `iter` on an abstract state (`Lemmas/Loop.lean`), counting loops.

How a translated kernel is proved (`Props/Translated*.lean`): name the bodies of its loops (`xxV` for the loop over `v`) and
state that the kernel is that text (`xx_shape`, by `rfl`); for each body that contains a loop say what one pass does
(`xxV_exec`), getting the loop from `exec_for` / `exec_for_zero` (or `exec_while_sim`) and the statements around it from
`simp -implicitDefEqProofs only [imp_exec, xxV]`; the kernel's own theorem is the outermost such step. -/
namespace Covfie.Imp

@[simp] theorem b2n_ne_zero (b : Bool) : (b2n b ≠ 0) = (b = true) := by cases b <;> simp [b2n]
@[simp] theorem b2n_eq_zero (b : Bool) : (b2n b = 0) = (b = false) := by cases b <;> simp [b2n]
theorem b2n_le_one (b : Bool) : b2n b ≤ 1 := by cases b <;> decide

/-! Equations of `exec` on fully applied states only (so that `simp only` leaves loop bodies folded). -/
theorem exec_skip (w F : Nat) (env : Env) : exec w F .skip env = some env := rfl
theorem exec_assign (w F i : Nat) (wd : Wd) (e : Expr) (env : Env) :
    exec w F (.assign i wd e) env = some (env.set i (eval w env e % 2 ^ bits w wd)) := rfl
theorem exec_seq (w F : Nat) (a b : Stmt) (env : Env) :
    exec w F (.seq a b) env = (exec w F a env).bind (exec w F b) := rfl
theorem exec_ite (w F : Nat) (c : Expr) (t e : Stmt) (env : Env) :
    exec w F (.ite c t e) env = if eval w env c ≠ 0 then exec w F t env else exec w F e env := rfl
theorem exec_while (w F : Nat) (c : Expr) (b : Stmt) (env : Env) :
    exec w F (.while c b) env = whileLoop (fun env => eval w env c ≠ 0) (exec w F b) F env := rfl

/- `simp -implicitDefEqProofs only [imp_exec, …]` runs straight-line code, of this language or of `Covfie.RImp`
(`Lemmas/RImp.lean` adds its equations to the set), on an environment written out as lists. Loops stay as they are
(`exec_while` is not in the set), to be rewritten by their own lemmas. `evalBin` unfolds to the raw machine operation; the
lemmas given besides name the sub-programs to unfold and say which operations do not wrap: `Nat.mod_eq_of_lt h` removes
the `% 2^w` of an `add`, `mul`, `shl` or assignment whose value `h` bounds, `sub_nowrap` that of a `sub`.
Why the option: every equation in the set holds by `rfl`, so without it `simp` records no proof for these steps and the
kernel re-runs the execution to compare the two ends (and unfolds a following loop whose fuel is a numeral); with it the
kernel checks the steps one by one, which is cheaper as soon as more than one statement is run. -/
attribute [imp_exec] exec_skip exec_seq exec_assign exec_ite Option.bind_some eval evalBin Env.set bits b2n_ne_zero
  decide_eq_true_eq if_true if_false List.getD_cons_zero List.getD_cons_succ List.set_cons_zero List.set_cons_succ Nat.zero_mod Nat.mod_mod

/-- `evalBin m .sub a b`, unfolded, when the difference does not wrap -/
theorem sub_nowrap {m a b : Nat} (hb : b ≤ a) (ha : a < m) : (a + (m - b % m)) % m = a - b := by
  have hbm := Nat.lt_of_le_of_lt hb ha
  rw [Nat.mod_eq_of_lt hbm, ← Nat.add_sub_assoc (Nat.le_of_lt hbm), Nat.sub_add_comm hb, Nat.add_mod_right,
    Nat.mod_eq_of_lt (Nat.lt_of_le_of_lt (Nat.sub_le a b) ha)]

theorem whileLoop_sim {α : Type} (cond : Env → Bool) (body : Env → Option Env) (abs : α → Env)
    (P : α → Prop) (c : α → Bool) (step : α → α)
    (hc : ∀ a, P a → cond (abs a) = c a)
    (hb : ∀ a, P a → c a = true → body (abs a) = some (abs (step a)))
    (hP : ∀ a, P a → c a = true → P (step a)) :
    ∀ f a, P a → whileLoop cond body f (abs a) = (iter c step f a).map abs := by
  intro f
  induction f with
  | zero => intro a _; rfl
  | succ f ih =>
    intro a ha
    simp only [whileLoop, iter, hc a ha]
    cases h : c a with
    | false => simp
    | true => simp [hb a ha h, ih _ (hP a ha h)]

/-- `whileLoop_sim` for a `while` statement: the program text stays folded. -/
theorem exec_while_sim {α : Type} (w F : Nat) (c : Expr) (b : Stmt) (abs : α → Env) (P : α → Prop) (cA : α → Bool)
    (step : α → α) (hc : ∀ a, P a → (eval w (abs a) c ≠ 0 ↔ cA a = true))
    (hb : ∀ a, P a → cA a = true → exec w F b (abs a) = some (abs (step a)))
    (hP : ∀ a, P a → cA a = true → P (step a)) (a : α) (ha : P a) :
    exec w F (.while c b) (abs a) = (iter cA step F a).map abs :=
  whileLoop_sim _ _ abs P cA step (fun a ha => Bool.eq_iff_iff.mpr (by rw [decide_eq_true_eq]; exact hc a ha)) hb hP F a ha

theorem whileLoop_eq_wloop (cond : Env → Bool) (body : Env → Option Env) :
    ∀ f env, whileLoop cond body f env = Covfie.RImp.wloop cond body f env := by
  intro f
  induction f with
  | zero => intro _; rfl
  | succ f ih => intro env; simp only [whileLoop, Covfie.RImp.wloop, funext ih]

theorem whileLoop_mono (cond : Env → Bool) (body : Env → Option Env) : ∀ f env r, whileLoop cond body f env = some r →
    ∀ g, f ≤ g → whileLoop cond body g env = some r := by
  simp only [whileLoop_eq_wloop]; exact Covfie.RImp.wloop_mono _ _

/-- `++c` -/
def incr (c : Nat) : Stmt := .assign c .S (.bin .add .S (.var c) (.lit 1))

theorem exec_incr (w F c k : Nat) (env : Env) (h : env.sc.getD c 0 = k) (hk : k + 1 < 2^64) :
    exec w F (incr c) env = some (env.set c (k + 1)) := by
  have e : eval w env (.bin .add .S (.var c) (.lit 1)) = (env.sc.getD c 0 + 1) % 2^64 := rfl
  rw [incr, exec_assign, e, h, bits, Nat.mod_mod, Nat.mod_eq_of_lt hk]

/-- `for (…; c < bound; ++c) body`, the initialisation of `c` left out -/
def forLt (c : Nat) (bound : Expr) (body : Stmt) : Stmt := .while (.bin .lt .S (.var c) bound) (.seq body (incr c))

/-- The environments the loop passes through are `e k s j`: `k` the value of `c`, `s` the part that is followed, `j` the
rest (dead variables, counters of inner loops); `hget` and `hset` say so and hold by `rfl` for an `e` written out as lists. -/
theorem exec_for {β γ : Type} (w F c n : Nat) (bound : Expr) (body : Stmt) (e : Nat → β → γ → Env) (step : Nat → β → β)
    (hn : n < 2^64) (hbound : ∀ k s j, eval w (e k s j) bound = n)
    (hbody : ∀ k s j, k < n → ∃ j', exec w F body (e k s j) = some (e k (step k s) j'))
    (k : Nat) (hk : k ≤ n) (hF : n - k < F) (s : β) (j : γ)
    (hget : ∀ k s j, (e k s j).sc.getD c 0 = k := by intros; rfl)
    (hset : ∀ k k' s j, (e k s j).set c k' = e k' s j := by intros; rfl) :
    ∃ j', exec w F (forLt c bound body) (e k s j)
      = some (e n ((List.range' k (n - k)).foldl (fun s k => step k s) s) j') := by
  simp only [forLt, exec_while, whileLoop_eq_wloop]
  refine Covfie.RImp.wloop_for _ _ n e step ?_ ?_ (n - k) k s j F (Nat.add_sub_cancel' hk) hF
  · intro k s j
    have e' : eval w (e k s j) (.bin .lt .S (.var c) bound) = b2n (decide ((e k s j).sc.getD c 0 < eval w (e k s j) bound)) :=
      rfl
    rw [e', hget, hbound]; simp
  · intro k s j hk
    obtain ⟨j', h⟩ := hbody k s j hk
    exact ⟨j', by rw [exec_seq, h, Option.bind_some, exec_incr w F c k _ (hget _ _ _) (Nat.lt_of_le_of_lt hk hn), hset]⟩

theorem exec_for_zero {β γ : Type} (w F c n : Nat) (bound : Expr) (body : Stmt) (e : Nat → β → γ → Env) (step : Nat → β → β)
    (hn : n < 2^64) (hbound : ∀ k s j, eval w (e k s j) bound = n)
    (hbody : ∀ k s j, k < n → ∃ j', exec w F body (e k s j) = some (e k (step k s) j'))
    (hF : n < F) (s : β) (j : γ)
    (hget : ∀ k s j, (e k s j).sc.getD c 0 = k := by intros; rfl)
    (hset : ∀ k k' s j, (e k s j).set c k' = e k' s j := by intros; rfl) :
    ∃ j', exec w F (forLt c bound body) (e 0 s j) = some (e n ((List.range n).foldl (fun s k => step k s) s) j') := by
  rw [List.range_eq_range']
  exact exec_for w F c n bound body e step hn hbound hbody 0 (Nat.zero_le n) hF s j hget hset

end Covfie.Imp
