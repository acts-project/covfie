import CovfieModel.Lemmas.IO
namespace Covfie.IO

theorem rd_take (k : Nat) (bs : List Byte) (h : k ≤ bs.length) : ∃ v, Runs (rd k) (bs.take k) (some v) := by
  induction k generalizing bs with
  | zero => exact ⟨0, fun _ => rfl⟩
  | succ k ih =>
    cases bs with
    | nil => simp at h
    | cons b bs =>
      obtain ⟨v, hv⟩ := ih bs (by simpa using h)
      exact ⟨b + 256 * v, fun rest => by simp only [List.take_succ_cons, List.cons_append, rd, hv rest]⟩

theorem rd_short (k : Nat) (bs : List Byte) (h : bs.length < k) : rd k bs = .error .truncated := by
  induction k generalizing bs with
  | zero => omega
  | succ k ih =>
    cases bs with
    | nil => rfl
    | cons b bs => simp only [rd, ih bs (by simpa using h)]

theorem readN_take (k j : Nat) (bs : List Byte) (h : k * j ≤ bs.length) :
    ∃ vs, Runs (readN (rd k) j) (bs.take (k * j)) (some vs) := by
  induction j generalizing bs with
  | zero => exact ⟨[], Runs.pure []⟩
  | succ j ih =>
    rw [Nat.mul_succ] at h
    obtain ⟨v, hv⟩ := rd_take k bs (by omega)
    obtain ⟨vs, hvs⟩ := ih (bs.drop k) (by rw [List.length_drop]; omega)
    rw [Nat.mul_succ, Nat.add_comm (k * j) k, List.take_add]
    exact ⟨v :: vs, hv.bind (hvs.map _)⟩

theorem readN_short (k j : Nat) (bs : List Byte) (h : bs.length < k * j) : IsErr (readN (rd k) j bs) := by
  induction j generalizing bs with
  | zero => simp at h
  | succ j ih =>
    by_cases hk : k ≤ bs.length
    · obtain ⟨v, hv⟩ := rd_take k bs hk
      rw [readN, bindP_ok hv.of_take]
      exact bindP_err (ih _ (by rw [List.length_drop, Nat.mul_succ] at *; omega))
    · exact bindP_err ⟨_, rd_short k bs (by omega)⟩

/-- prefix-locality: success only depends on the consumed prefix -/
def PL {α} (p : Parser α) : Prop :=
  ∀ bs a r, p bs = .ok (a, r) → ∃ pre, bs = pre ++ r ∧ ∀ r', p (pre ++ r') = .ok (a, r')

section
variable {α β : Type} {p : Parser α} {q : α → Parser β}

theorem PL.pure (a : α) : PL (pureP a) := by
  intro bs a' r h; cases h; exact ⟨[], rfl, Runs.pure a⟩

theorem PL.fail (e : IOErr) : PL (failP e : Parser α) := by
  intro bs a r h; cases h

theorem PL.bind (hp : PL p) (hq : ∀ a, PL (q a)) : PL (bindP p q) := by
  intro bs b r h
  cases hpb : p bs with
  | error e => simp only [bindP, hpb] at h; cases h
  | ok ar =>
    obtain ⟨a, r1⟩ := ar
    rw [bindP_ok hpb] at h
    obtain ⟨pre1, e1, f1⟩ := hp bs a r1 hpb
    obtain ⟨pre2, e2, f2⟩ := hq a r1 b r h
    exact ⟨pre1 ++ pre2, by rw [e1, e2, List.append_assoc], Runs.bind (o := some b) f1 f2⟩

theorem PL.rd (k : Nat) : PL (IO.rd k) := by
  intro bs a r h
  by_cases hk : k ≤ bs.length
  · obtain ⟨v, hv⟩ := rd_take k bs hk
    rw [hv.of_take] at h
    cases h
    exact ⟨bs.take k, (List.take_append_drop k bs).symm, hv⟩
  · rw [rd_short k bs (by omega)] at h; cases h

theorem PL.expect (k w : Nat) (e : IOErr) : PL (IO.expect k w e) :=
  .bind (.rd k) fun v => by split; exact .pure (); exact .fail e

theorem PL.readN (hp : PL p) : ∀ n, PL (IO.readN p n)
  | 0 => .pure _
  | n+1 => .bind hp fun _ => .bind (PL.readN hp n) fun _ => .pure _

theorem PL.wrap (t : Nat) {body : Parser α} (hb : PL body) : PL (wrapP t body) :=
  .bind (.bind (.expect _ _ _) fun _ => .expect _ _ _) fun _ => .bind hb fun _ =>
    .bind (.bind (.expect _ _ _) fun _ => .expect _ _ _) fun _ => .pure _

end

theorem PL_loadB : ∀ ty, PL (loadB ty)
  | .array M => .wrap _ <| .bind (.rd 4) fun wd => by
      split
      · exact .bind (.rd 8) fun n => .bind (.readN (.rd wd) _) fun _ => .pure _
      · exact .fail _
  | .constant sz M => .wrap _ <| .bind (.readN (.rd sz) _) fun _ => .pure _
  | .identity => .wrap _ (.pure _)
  | .sized t N b => .wrap _ <| .bind (.readN (.rd 8) _) fun _ => .bind (PL_loadB b) fun _ => .pure _
  | .clamp sz N b => .wrap _ <| .bind (.readN (.rd sz) _) fun _ => .bind (.readN (.rd sz) _) fun _ => .bind (PL_loadB b) fun _ => .pure _
  | .backup sz N osz M b => .wrap _ <| .bind (.readN (.rd sz) _) fun _ => .bind (.readN (.rd sz) _) fun _ =>
      .bind (.readN (.rd osz) _) fun _ => .bind (PL_loadB b) fun _ => .pure _
  | .affine sz N b => .wrap _ <| .bind (.readN (.rd sz) _) fun _ => .bind (PL_loadB b) fun _ => .pure _
  | .thin b => .bind (PL_loadB b) fun _ => .pure _

theorem PL_load (ty : Ty) : PL (load ty) := .wrap _ (PL_loadB ty)

/-- if a parser accepts `D` completely, it accepts no proper prefix of `D` -/
theorem prefix_rejected {α} (p : Parser α) (hp : PL p) (D : List Byte) (f : α)
    (hrt : p D = .ok (f, [])) (n : Nat) (hn : n < D.length) :
    ∀ a r, p (D.take n) ≠ .ok (a, r) := by
  intro a r h
  obtain ⟨pre, e, g⟩ := hp _ a r h
  have h2 := g (r ++ D.drop n)
  rw [← List.append_assoc, ← e, List.take_append_drop] at h2
  rw [hrt] at h2
  simp at h2
  omega

/-- one of the four words of a header·body·footer bracket has been replaced by a different 32-bit value -/
inductive AltW (t : Nat) (body : List Byte) : List Byte → Prop
  | h1 (w' : Nat) : w' ≠ MAGH → w' < 256^4 → AltW t body (le 4 w' ++ le 4 t ++ body ++ ftr t)
  | h2 (t' : Nat) : t' ≠ t → t' < 256^4 → AltW t body (le 4 MAGH ++ le 4 t' ++ body ++ ftr t)
  | f1 (w' : Nat) : w' ≠ MAGF → w' < 256^4 → AltW t body (hdr t ++ body ++ (le 4 w' ++ le 4 (t + FOOT)))
  | f2 (t' : Nat) : t' ≠ t + FOOT → t' < 256^4 → AltW t body (hdr t ++ body ++ (le 4 MAGF ++ le 4 t'))

theorem Runs.wrap_alt {α} {t : Nat} {body : Parser α} {B bs : List Byte} {a : α} (ht : t + FOOT < 256^4)
    (hb : Runs body B (some a)) (h : AltW t B bs) : Runs (wrapP t body) bs none := by
  have ht4 : t < 256^4 := Nat.lt_of_le_of_lt (Nat.le_add_right t FOOT) ht
  cases h with
  | h1 w' hne hw => exact (((Runs.two_ne _ _ hw ht4 (.inl hne)).fail).append _).append _
  | h2 t' hne hw => exact (((Runs.two_ne _ _ (by decide) hw (.inr hne)).fail).append _).append _
  | f1 w' hne hw => exact .wrap_ftr ht hb (Runs.two_ne _ _ hw ht (.inl hne))
  | f2 t' hne hw => exact .wrap_ftr ht hb (Runs.two_ne _ _ (by decide) hw (.inr hne))

/-- the body bytes (between header and footer) of a non-`thin` layer -/
def bodyOf : Ty → Dat → List Byte
  | .array _, .array wd count cells => le 4 wd ++ le 8 count ++ words wd cells
  | .constant sz _, .constant v => words sz v
  | .identity, .identity => []
  | .sized _ _ b, .sized cfg d => words 8 cfg ++ dumpB b d
  | .clamp sz _ b, .clamp lo hi d => words sz lo ++ words sz hi ++ dumpB b d
  | .backup sz _ osz _ b, .backup lo hi df d => words sz lo ++ words sz hi ++ words osz df ++ dumpB b d
  | .affine sz _ b, .affine m d => words sz m ++ dumpB b d
  | _, _ => []

theorem dumpB_bracket : ∀ ty d, WF ty d → (∀ c, ty ≠ .thin c) →
    dumpB ty d = wrapD (tagOf ty) (bodyOf ty d) ∧ tagOf ty + FOOT < 256^4 :=
  WF.ind
    (array := fun _ _ _ _ _ _ => ⟨rfl, (by decide : T_ARRAY + FOOT < 256^4)⟩)
    (constant := fun _ _ _ _ _ => ⟨rfl, (by decide : T_CONST + FOOT < 256^4)⟩)
    (identity := fun _ => ⟨rfl, (by decide : T_IDENT + FOOT < 256^4)⟩)
    (sized := fun _ _ _ _ _ h _ _ => ⟨rfl, h.1⟩)
    (clamp := fun _ _ _ _ _ _ _ _ _ => ⟨rfl, (by decide : T_CLAMP + FOOT < 256^4)⟩)
    (backup := fun _ _ _ _ _ _ _ _ _ _ _ _ => ⟨rfl, (by decide : T_BACKUP + FOOT < 256^4)⟩)
    (affine := fun _ _ _ _ _ _ _ _ => ⟨rfl, (by decide : T_AFFINE + FOOT < 256^4)⟩)
    (thin := fun b _ _ _ hnt => absurd rfl (hnt b))

/-- `bs` is the dump of `d` with exactly one checked word altered: a header or footer word of some layer,
    or the float-width word replaced by a value other than 4 and 8 -/
inductive Alt : Ty → Dat → List Byte → Prop
  | array (M wd n : Nat) (cells : List Nat) (bs) :
      AltW T_ARRAY (bodyOf (.array M) (.array wd n cells)) bs → Alt (.array M) (.array wd n cells) bs
  | width (M wd n : Nat) (cells : List Nat) (w' : Nat) : w' ≠ 4 → w' ≠ 8 → w' < 256^4 →
      Alt (.array M) (.array wd n cells) (wrapD T_ARRAY (le 4 w' ++ le 8 n ++ words wd cells))
  | constant (sz M : Nat) (v bs) : AltW T_CONST (words sz v) bs → Alt (.constant sz M) (.constant v) bs
  | identity (bs) : AltW T_IDENT [] bs → Alt .identity .identity bs
  | sizedOwn (t N b cfg d bs) : AltW t (words 8 cfg ++ dumpB b d) bs → Alt (.sized t N b) (.sized cfg d) bs
  | sizedIn (t N b cfg d bs) : Alt b d bs → Alt (.sized t N b) (.sized cfg d) (wrapD t (words 8 cfg ++ bs))
  | clampOwn (sz N b lo hi d bs) : AltW T_CLAMP (words sz lo ++ words sz hi ++ dumpB b d) bs →
      Alt (.clamp sz N b) (.clamp lo hi d) bs
  | clampIn (sz N b lo hi d bs) : Alt b d bs →
      Alt (.clamp sz N b) (.clamp lo hi d) (wrapD T_CLAMP (words sz lo ++ words sz hi ++ bs))
  | backupOwn (sz N osz M b lo hi df d bs) :
      AltW T_BACKUP (words sz lo ++ words sz hi ++ words osz df ++ dumpB b d) bs →
      Alt (.backup sz N osz M b) (.backup lo hi df d) bs
  | backupIn (sz N osz M b lo hi df d bs) : Alt b d bs →
      Alt (.backup sz N osz M b) (.backup lo hi df d) (wrapD T_BACKUP (words sz lo ++ words sz hi ++ words osz df ++ bs))
  | affineOwn (sz N b m d bs) : AltW T_AFFINE (words sz m ++ dumpB b d) bs → Alt (.affine sz N b) (.affine m d) bs
  | affineIn (sz N b m d bs) : Alt b d bs → Alt (.affine sz N b) (.affine m d) (wrapD T_AFFINE (words sz m ++ bs))
  | thin (b d bs) : Alt b d bs → Alt (.thin b) (.thin d) bs

theorem loadB_alt (ty : Ty) (d : Dat) (bs : List Byte) (h : Alt ty d bs) (hwf : WF ty d) : Runs (loadB ty) bs none := by
  induction h with
  | array M wd n cells bs ha => exact .wrap_alt (by decide) (arrayBody hwf.1 hwf.2.1 (Runs.words hwf.2.2.1 hwf.2.2.2)) ha
  | width M wd n cells w' h4 h8 hw' =>
    refine .wrap (by decide) ((Runs.rd hw').bind ?_)
    rw [if_neg (by omega)]
    exact fun _ => ⟨_, rfl⟩
  | constant sz M v bs ha => exact .wrap_alt (by decide) ((Runs.words hwf.1 hwf.2).map _) ha
  | identity bs ha => exact .wrap_alt (by decide) (.pure _) ha
  | sizedOwn t N b cfg d bs ha => exact .wrap_alt hwf.1 (sizedBody hwf (loadB_dumpB b d hwf.sized_inner)) ha
  | sizedIn t N b cfg d bs _ ih => exact .wrap hwf.1 (sizedBody hwf (ih hwf.sized_inner))
  | clampOwn sz N b lo hi d bs ha => exact .wrap_alt (by decide) (clampBody hwf (loadB_dumpB b d hwf.clamp_inner)) ha
  | clampIn sz N b lo hi d bs _ ih => exact .wrap (by decide) (clampBody hwf (ih hwf.clamp_inner))
  | backupOwn sz N osz M b lo hi df d bs ha =>
    exact .wrap_alt (by decide) (backupBody hwf (loadB_dumpB b d hwf.backup_inner)) ha
  | backupIn sz N osz M b lo hi df d bs _ ih => exact .wrap (by decide) (backupBody hwf (ih hwf.backup_inner))
  | affineOwn sz N b m d bs ha => exact .wrap_alt (by decide) (affineBody hwf (loadB_dumpB b d hwf.affine_inner)) ha
  | affineIn sz N b m d bs _ ih => exact .wrap (by decide) (affineBody hwf (ih hwf.affine_inner))
  | thin b d bs _ ih => exact (ih hwf).map _

end Covfie.IO
