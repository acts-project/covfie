import CovfieModel.Lemmas.Loop
import CovfieModel.Lemmas.Imp
/-! Equations of `Covfie.RImp.exec`, its counting loops, and arrays filled cell by cell. -/
namespace Covfie.RImp
open Covfie.Imp (Expr iterN iterN_counter)

variable {α : Type}

theorem foldl_congr {β ι : Type} (f g : β → ι → β) (l : List ι) (a : β) (h : ∀ a k, k ∈ l → f a k = g a k) :
    l.foldl f a = l.foldl g a := by
  induction l generalizing a with
  | nil => rfl
  | cons k l ih =>
    rw [List.foldl_cons, List.foldl_cons, h a k List.mem_cons_self, ih _ (fun a k hk => h a k (List.mem_cons_of_mem _ hk))]

theorem foldl_pair {β γ ι : Type} (f : β → ι → β) (g : γ → ι → γ) (l : List ι) (p : β × γ) :
    l.foldl (fun p k => (f p.1 k, g p.2 k)) p = (l.foldl f p.1, l.foldl g p.2) := by
  induction l generalizing p with
  | nil => rfl
  | cons k l ih => rw [List.foldl_cons, ih]; rfl

/-- `for c < n: r[key c] := val c` -/
def fill (key : Nat → List Nat) (val : Nat → α) (n : Nat) (r : List Nat → α) : List Nat → α :=
  (List.range n).foldl (fun r c => upd r (key c) (val c)) r

theorem fill_succ (key : Nat → List Nat) (val : Nat → α) (n : Nat) (r : List Nat → α) :
    fill key val (n + 1) r = upd (fill key val n r) (key n) (val n) := by
  simp [fill, List.range_succ]

theorem fill_miss (key : Nat → List Nat) (val : Nat → α) (n : Nat) (r : List Nat → α) (ix : List Nat)
    (h : ∀ c, c < n → key c ≠ ix) : fill key val n r ix = r ix := by
  induction n with
  | zero => rfl
  | succ n ih =>
    rw [fill_succ, upd, if_neg (fun e => h n (by omega) e.symm), ih (fun c hc => h c (by omega))]

/-- the default proof of `hinj` serves keys like `[i, c]` -/
theorem fill_hit (key : Nat → List Nat) (val : Nat → α) (n : Nat) (r : List Nat → α) (c : Nat) (hc : c < n)
    (hinj : ∀ a b, key a = key b → a = b := by intro a b h; simpa using h) : fill key val n r (key c) = val c := by
  induction n with
  | zero => omega
  | succ n ih =>
    rw [fill_succ, upd]
    by_cases e : c = n
    · rw [e, if_pos rfl]
    · rw [if_neg (fun h => e (hinj _ _ h)), ih (by omega)]

def tabStep (key : Nat → List Nat) (val : Nat → α) (s : (List Nat → α) × Nat) : (List Nat → α) × Nat :=
  (upd s.1 (key s.2) (val s.2), s.2 + 1)

theorem iterN_fill (key : Nat → List Nat) (val : Nat → α) (n : Nat) (r : List Nat → α) :
    iterN (tabStep key val) n (r, 0) = (fill key val n r, n) :=
  (iterN_counter (fun c r => upd r (key c) (val c)) n r 0).trans (by rw [fill, List.range_eq_range', Nat.zero_add])

theorem fill_pair (key : Nat → List Nat) (va vb : Nat → α) (n : Nat) (p : (List Nat → α) × (List Nat → α)) :
    (List.range n).foldl (fun p c => (upd p.1 (key c) (va c), upd p.2 (key c) (vb c))) p = (fill key va n p.1, fill key vb n p.2) :=
  foldl_pair (fun r c => upd r (key c) (va c)) (fun r c => upd r (key c) (vb c)) _ p

/-- `for i < n: for j < m: r[i, j] := val i j` -/
def fill2 (val : Nat → Nat → α) (n m : Nat) (r : List Nat → α) : List Nat → α :=
  (List.range n).foldl (fun r i => fill (fun j => [i, j]) (val i) m r) r

theorem fill2_at (val : Nat → Nat → α) (n m : Nat) (r : List Nat → α) (i j : Nat) :
    fill2 val n m r [i, j] = if i < n ∧ j < m then val i j else r [i, j] := by
  induction n with
  | zero => simp [fill2]
  | succ n ih =>
    rw [fill2, List.range_succ, List.foldl_append, List.foldl_cons, List.foldl_nil, ← fill2]
    by_cases h : i = n ∧ j < m
    · obtain ⟨rfl, hj⟩ := h
      rw [fill_hit (fun j => [i, j]) _ m _ j hj]; simp [hj]
    · rw [fill_miss _ _ _ _ _ (by intro c hc e; simp at e; omega), ih]
      by_cases h1 : i < n ∧ j < m
      · rw [if_pos h1, if_pos ⟨by omega, h1.2⟩]
      · rw [if_neg h1, if_neg (by omega)]

theorem fill2_pair (va vb : Nat → Nat → α) (n m : Nat) (p : (List Nat → α) × (List Nat → α)) :
    (List.range n).foldl (fun p i => (List.range m).foldl (fun p j => (upd p.1 [i, j] (va i j), upd p.2 [i, j] (vb i j))) p) p
      = (fill2 va n m p.1, fill2 vb n m p.2) := by
  simp only [fill_pair]
  exact foldl_pair (fun r i => fill (fun j => [i, j]) (va i) m r) (fun r i => fill (fun j => [i, j]) (vb i) m r) _ p

theorem foldl_upd_acc {ι : Type} (g : α → ι → α) (ix : List Nat) (l : List ι) (r : List Nat → α) (a : α) :
    l.foldl (fun r n => upd r ix (g (r ix) n)) (upd r ix a) = upd r ix (l.foldl g a) := by
  induction l generalizing a with
  | nil => rfl
  | cons n l ih =>
    rw [List.foldl_cons, List.foldl_cons, ← ih]
    congr 1
    funext jx
    simp only [upd]
    split <;> simp

variable [Add α] [Mul α] [Sub α] [OfNat α 0] [OfNat α 1]

theorem exec_skip (F : Nat) (env : Env α) : exec F .skip env = some env := rfl
theorem exec_iassign (F i : Nat) (e) (env : Env α) :
    exec F (.iassign i e) env = some { env with isc := env.isc.set i (ieval env e % 2^64) } := rfl
theorem exec_rassign (F i : Nat) (e) (env : Env α) :
    exec F (.rassign i e) env = some { env with rsc := env.rsc.set i (reval env e) } := rfl
theorem exec_rset (F a : Nat) (ix e) (env : Env α) :
    exec F (.rset a ix e) env = some { env with arr := env.arr.set a (upd (env.arr.getD a (fun _ => 0)) (ix.map (ieval env)) (reval env e)) } := rfl
theorem exec_seq (F : Nat) (a b : Stmt) (env : Env α) : exec F (.seq a b) env = (exec F a env).bind (exec F b) := rfl
theorem exec_ite (F : Nat) (c) (t e : Stmt) (env : Env α) :
    exec F (.ite c t e) env = if ieval env c ≠ 0 then exec F t env else exec F e env := rfl
theorem exec_while (F : Nat) (c) (b : Stmt) (env : Env α) :
    exec F (.while c b) env = wloop (fun env => ieval env c ≠ 0) (exec F b) F env := rfl

/- straight-line code of this language is run by the same `simp -implicitDefEqProofs only [imp_exec, …]` (`Lemmas/Imp.lean`) -/
attribute [imp_exec] exec_skip exec_seq exec_iassign exec_rassign exec_rset exec_ite reval ieval List.map_cons List.map_nil

def Env.seti (env : Env α) (c k : Nat) : Env α := { env with isc := env.isc.set c k }

/-! Counting loops, stated as in `Lemmas/Imp.lean`. -/

/-- `++c` -/
def incr (c : Nat) : Stmt := .iassign c (.bin .add .S (.var c) (.lit 1))

theorem exec_incr (F c k : Nat) (env : Env α) (h : env.isc.getD c 0 = k) (hk : k + 1 < 2^64) :
    exec F (incr c) env = some (env.seti c (k + 1)) := by
  have e : ieval env (.bin .add .S (.var c) (.lit 1)) = (env.isc.getD c 0 + 1) % 2^64 := rfl
  rw [incr, exec_iassign, e, h, Nat.mod_mod, Nat.mod_eq_of_lt hk]
  rfl

/-- `for (…; c < bound; ++c) body`, the initialisation of `c` left out -/
def forLt (c : Nat) (bound : Expr) (body : Stmt) : Stmt := .while (.bin .lt .S (.var c) bound) (.seq body (incr c))

theorem exec_for {β γ : Type} (F c n : Nat) (bound : Expr) (body : Stmt) (e : Nat → β → γ → Env α) (step : Nat → β → β)
    (hn : n < 2^64) (hbound : ∀ k s j, ieval (e k s j) bound = n)
    (hbody : ∀ k s j, k < n → ∃ j', exec F body (e k s j) = some (e k (step k s) j'))
    (k : Nat) (hk : k ≤ n) (hF : n - k < F) (s : β) (j : γ)
    (hget : ∀ k s j, (e k s j).isc.getD c 0 = k := by intros; rfl)
    (hset : ∀ k k' s j, (e k s j).seti c k' = e k' s j := by intros; rfl) :
    ∃ j', exec F (forLt c bound body) (e k s j)
      = some (e n ((List.range' k (n - k)).foldl (fun s k => step k s) s) j') := by
  rw [forLt, exec_while]
  refine wloop_for _ _ n e step ?_ ?_ (n - k) k s j F (Nat.add_sub_cancel' hk) hF
  · intro k s j
    have e' : ieval (e k s j) (.bin .lt .S (.var c) bound)
        = Covfie.Imp.b2n (decide ((e k s j).isc.getD c 0 < ieval (e k s j) bound)) := rfl
    rw [e', hget, hbound]; simp
  · intro k s j hk
    obtain ⟨j', h⟩ := hbody k s j hk
    exact ⟨j', by rw [exec_seq, h, Option.bind_some, exec_incr F c k _ (hget _ _ _) (Nat.lt_of_le_of_lt hk hn), hset]⟩

theorem exec_for_zero {β γ : Type} (F c n : Nat) (bound : Expr) (body : Stmt) (e : Nat → β → γ → Env α) (step : Nat → β → β)
    (hn : n < 2^64) (hbound : ∀ k s j, ieval (e k s j) bound = n)
    (hbody : ∀ k s j, k < n → ∃ j', exec F body (e k s j) = some (e k (step k s) j'))
    (hF : n < F) (s : β) (j : γ)
    (hget : ∀ k s j, (e k s j).isc.getD c 0 = k := by intros; rfl)
    (hset : ∀ k k' s j, (e k s j).seti c k' = e k' s j := by intros; rfl) :
    ∃ j', exec F (forLt c bound body) (e 0 s j) = some (e n ((List.range n).foldl (fun s k => step k s) s) j') := by
  rw [List.range_eq_range']
  exact exec_for F c n bound body e step hn hbound hbody 0 (Nat.zero_le n) hF s j hget hset

end Covfie.RImp
