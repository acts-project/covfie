import CovfieModel.Model.IO
/-! The parser combinators of `Model/IO.lean` through one relation, `Runs p bs o`: what `p` does on every stream that starts
with `bs`. It is closed under `bindP` and `wrapP`, so a statement about `loadB` on a dump is put together layer by layer, and the
same combination serves acceptance (`o = some a`) and rejection (`o = none`). -/
namespace Covfie.IO

def IsErr {α} (r : Except IOErr α) : Prop := ∃ e, r = .error e

theorem le_length (k w : Nat) : (le k w).length = k := by
  induction k generalizing w with
  | zero => rfl
  | succ k ih => simp [le, ih]

theorem words_length (k : Nat) (xs : List Nat) : (words k xs).length = k * xs.length := by
  induction xs with
  | nil => rfl
  | cons x xs ih => simp only [words, List.flatMap_cons, List.length_append, le_length, List.length_cons] at ih ⊢
                    rw [ih, Nat.mul_succ, Nat.add_comm]

theorem wrapD_length (t : Nat) (B : List Byte) : (wrapD t B).length = 16 + B.length := by
  simp only [wrapD, hdr, ftr, List.length_append, le_length]; omega

theorem bindP_assoc {α β γ} (p : Parser α) (q : α → Parser β) (r : β → Parser γ) :
    bindP (bindP p q) r = bindP p fun a => bindP (q a) r := by
  funext bs; simp only [bindP]; cases p bs <;> rfl
theorem bindP_pure {α β} (a : α) (q : α → Parser β) : bindP (pureP a) q = q a := rfl
theorem bindP_pure_right {α} (p : Parser α) : bindP p pureP = p := by
  funext bs; simp only [bindP]; cases p bs <;> rfl

section
variable {t sz osz N M : Nat} {b b' : Ty} {d d' : Dat} {cfg lo hi df m : List Nat}

theorem WF.sized_inner (h : WF (.sized t N b) (.sized cfg d)) : WF b d := h.2.2.2
theorem WF.clamp_inner (h : WF (.clamp sz N b) (.clamp lo hi d)) : WF b d := h.2.2.2.2
theorem WF.backup_inner (h : WF (.backup sz N osz M b) (.backup lo hi df d)) : WF b d := h.2.2.2.2.2.2
theorem WF.affine_inner (h : WF (.affine sz N b) (.affine m d)) : WF b d := h.2.2

theorem WF.sized_congr (h : WF (.sized t N b) (.sized cfg d)) (h' : WF b' d') : WF (.sized t N b') (.sized cfg d') :=
  ⟨h.1, h.2.1, h.2.2.1, h'⟩
theorem WF.clamp_congr (h : WF (.clamp sz N b) (.clamp lo hi d)) (h' : WF b' d') : WF (.clamp sz N b') (.clamp lo hi d') :=
  ⟨h.1, h.2.1, h.2.2.1, h.2.2.2.1, h'⟩
theorem WF.backup_congr (h : WF (.backup sz N osz M b) (.backup lo hi df d)) (h' : WF b' d') :
    WF (.backup sz N osz M b') (.backup lo hi df d') :=
  ⟨h.1, h.2.1, h.2.2.1, h.2.2.2.1, h.2.2.2.2.1, h.2.2.2.2.2.1, h'⟩
theorem WF.affine_congr (h : WF (.affine sz N b) (.affine m d)) (h' : WF b' d') : WF (.affine sz N b') (.affine m d') :=
  ⟨h.1, h.2.1, h'⟩

end

theorem WF.ind {P : Ty → Dat → Prop}
    (array : ∀ M wd n cells, WF (.array M) (.array wd n cells) → P (.array M) (.array wd n cells))
    (constant : ∀ sz M v, WF (.constant sz M) (.constant v) → P (.constant sz M) (.constant v))
    (identity : P .identity .identity)
    (sized : ∀ t N b cfg d, WF (.sized t N b) (.sized cfg d) → P b d → P (.sized t N b) (.sized cfg d))
    (clamp : ∀ sz N b lo hi d, WF (.clamp sz N b) (.clamp lo hi d) → P b d → P (.clamp sz N b) (.clamp lo hi d))
    (backup : ∀ sz N osz M b lo hi df d, WF (.backup sz N osz M b) (.backup lo hi df d) → P b d →
      P (.backup sz N osz M b) (.backup lo hi df d))
    (affine : ∀ sz N b m d, WF (.affine sz N b) (.affine m d) → P b d → P (.affine sz N b) (.affine m d))
    (thin : ∀ b d, WF b d → P b d → P (.thin b) (.thin d)) :
    ∀ ty d, WF ty d → P ty d := by
  intro ty d
  -- `WF`'s own recursion; its last case is the pairs of different shape, on which `WF` is `False`
  induction ty, d using WF.induct with
  | case1 => exact array _ _ _ _
  | case2 => exact constant _ _ _
  | case3 => exact fun _ => identity
  | case4 _ _ _ _ _ ih => exact fun h => sized _ _ _ _ _ h (ih h.sized_inner)
  | case5 _ _ _ _ _ _ ih => exact fun h => clamp _ _ _ _ _ _ h (ih h.clamp_inner)
  | case6 _ _ _ _ _ _ _ _ _ ih => exact fun h => backup _ _ _ _ _ _ _ _ _ h (ih h.backup_inner)
  | case7 _ _ _ _ _ ih => exact fun h => affine _ _ _ _ _ h (ih h.affine_inner)
  | case8 _ _ ih => exact fun h => thin _ _ h (ih h)
  | case9 _ _ h₁ h₂ h₃ h₄ h₅ h₆ h₇ h₈ => exact fun h => (WF.eq_9 _ _ h₁ h₂ h₃ h₄ h₅ h₆ h₇ h₈ ▸ h).elim

/-- what `p` does on every stream that starts with `bs`: `some a` — it consumes exactly `bs` and yields `a`; `none` — it fails -/
def Runs {α} (p : Parser α) (bs : List Byte) : Option α → Prop
  | some a => ∀ rest, p (bs ++ rest) = .ok (a, rest)
  | none => ∀ rest, IsErr (p (bs ++ rest))

section
variable {α β : Type} {p : Parser α} {q : α → Parser β} {xs ys : List Byte} {a : α}

theorem Runs.pure (a : α) : Runs (pureP a) [] (some a) := fun _ => rfl

theorem bindP_ok {bs r : List Byte} (h : p bs = .ok (a, r)) : bindP p q bs = q a r := by simp only [bindP, h]

theorem bindP_err {bs : List Byte} (h : IsErr (p bs)) : IsErr (bindP p q bs) := by
  obtain ⟨e, he⟩ := h; exact ⟨e, by simp only [bindP, he]⟩

theorem Runs.bind {o : Option β} (hp : Runs p xs (some a)) (hq : Runs (q a) ys o) : Runs (bindP p q) (xs ++ ys) o := by
  have e rest : bindP p q (xs ++ ys ++ rest) = q a (ys ++ rest) := by rw [List.append_assoc, bindP_ok (hp _)]
  cases o with
  | some b => exact fun rest => (e rest).trans (hq rest)
  | none => exact fun rest => e rest ▸ hq rest

theorem Runs.fail (hp : Runs p xs none) : Runs (bindP p q) xs none := fun rest => bindP_err (hp rest)

theorem Runs.append (hp : Runs p xs none) (ys : List Byte) : Runs p (xs ++ ys) none := fun rest => by
  rw [List.append_assoc]; exact hp _

theorem Runs.of_take {bs : List Byte} {k : Nat} (hp : Runs p (bs.take k) (some a)) : p bs = .ok (a, bs.drop k) := by
  simpa only [List.take_append_drop] using hp (bs.drop k)

theorem Runs.map {o : Option α} (f : α → β) (hp : Runs p xs o) : Runs (bindP p fun a => pureP (f a)) xs (o.map f) := by
  cases o with
  | some a => exact List.append_nil xs ▸ hp.bind (Runs.pure (f a))
  | none => exact hp.fail

theorem Runs.rd {k w : Nat} (h : w < 256^k) : Runs (rd k) (le k w) (some w) := by
  induction k generalizing w with
  | zero => intro rest; simp at h; subst h; rfl
  | succ k ih =>
    intro rest
    have : w / 256 < 256^k := by
      rw [Nat.pow_succ] at h; exact Nat.div_lt_of_lt_mul (by omega)
    simp only [le, List.cons_append, IO.rd, ih this rest]
    congr 2; omega

theorem Runs.words {k n : Nat} {vs : List Nat} (hn : vs.length = n) (h : allLt (256^k) vs) :
    Runs (readN (IO.rd k) n) (words k vs) (some vs) := by
  subst hn
  induction vs with
  | nil => exact Runs.pure []
  | cons x vs ih =>
    exact (Runs.rd (h x List.mem_cons_self)).bind ((ih fun y hy => h y (List.mem_cons_of_mem _ hy)).map _)

theorem Runs.expect_eq {k w : Nat} (e : IOErr) (h : Runs (IO.rd k) xs (some w)) : Runs (IO.expect k w e) xs (some ()) := fun rest => by
  simp only [IO.expect, bindP, h rest, if_true]; rfl

theorem Runs.expect_ne {k w v : Nat} (e : IOErr) (h : Runs (IO.rd k) xs (some v)) (hne : v ≠ w) : Runs (IO.expect k w e) xs none :=
  fun rest => ⟨e, by simp only [IO.expect, bindP, h rest, if_neg hne]; rfl⟩

/-- a header or a footer is two words, each compared with the expected one -/
theorem Runs.two_eq {m t : Nat} (e₁ e₂ : IOErr) (hm : m < 256^4) (ht : t < 256^4) :
    Runs (bindP (IO.expect 4 m e₁) fun _ => IO.expect 4 t e₂) (le 4 m ++ le 4 t) (some ()) :=
  (Runs.expect_eq e₁ (Runs.rd hm)).bind (Runs.expect_eq e₂ (Runs.rd ht))

theorem Runs.two_ne {m t m' t' : Nat} (e₁ e₂ : IOErr) (hm : m' < 256^4) (ht : t' < 256^4) (hne : m' ≠ m ∨ t' ≠ t) :
    Runs (bindP (IO.expect 4 m e₁) fun _ => IO.expect 4 t e₂) (le 4 m' ++ le 4 t') none := by
  by_cases e : m' = m
  · subst e; exact (Runs.expect_eq e₁ (Runs.rd hm)).bind (Runs.expect_ne e₂ (Runs.rd ht) (hne.resolve_left fun c => c rfl))
  · exact ((Runs.expect_ne e₁ (Runs.rd hm) e).fail).append _

theorem Runs.pHdr {t : Nat} (ht : t + FOOT < 256^4) : Runs (IO.pHdr t) (hdr t) (some ()) :=
  Runs.two_eq _ _ (by decide) (Nat.lt_of_le_of_lt (Nat.le_add_right t FOOT) ht)

theorem Runs.pFtr {t : Nat} (ht : t + FOOT < 256^4) : Runs (IO.pFtr t) (ftr t) (some ()) := Runs.two_eq _ _ (by decide) ht

theorem Runs.wrap {t : Nat} {body : Parser α} {B : List Byte} {o : Option α} (ht : t + FOOT < 256^4) (hb : Runs body B o) :
    Runs (wrapP t body) (wrapD t B) o := by
  unfold wrapP wrapD
  cases o with
  | some a => rw [List.append_assoc]; exact (Runs.pHdr ht).bind (hb.bind ((Runs.pFtr ht).map fun _ => a))
  | none => exact ((Runs.pHdr ht).bind hb.fail).append _

theorem Runs.wrap_ftr {t : Nat} {body : Parser α} {B X : List Byte} (ht : t + FOOT < 256^4) (hb : Runs body B (some a))
    (hf : Runs (IO.pFtr t) X none) : Runs (wrapP t body) (hdr t ++ B ++ X) none := by
  rw [List.append_assoc]; exact (Runs.pHdr ht).bind (hb.bind hf.fail)

end

/-! What each layer's reader does between its header and footer, given what the reader of the cells (array) or of the layer below
does on the bytes `C`, `X` that follow the layer's own words (the content `d'` and the type `b'` of the writer's lower layers play
no part). -/
theorem arrayBody {M wd n : Nat} {C : List Byte} {o : Option (List Nat)} (hw : wd = 4 ∨ wd = 8) (hn : n < 256^8)
    (hc : Runs (readN (rd wd) (n * M)) C o) :
    Runs (bindP (rd 4) fun wd => if wd = 4 ∨ wd = 8 then
        bindP (rd 8) fun n => bindP (readN (rd wd) (n * M)) fun cells => pureP (Dat.array wd n cells)
      else failP .badWidth) (le 4 wd ++ le 8 n ++ C) (o.map (Dat.array wd n)) := by
  have hw4 : wd < 256^4 := by rcases hw with h | h <;> subst h <;> decide
  rw [List.append_assoc]
  refine (Runs.rd hw4).bind ?_
  rw [if_pos hw]
  exact (Runs.rd hn).bind (hc.map _)

section
variable {b b' : Ty} {d' : Dat} {X : List Byte} {o : Option Dat}

theorem sizedBody {t N : Nat} {cfg : List Nat} (h : WF (.sized t N b') (.sized cfg d')) (hx : Runs (loadB b) X o) :
    Runs (bindP (readN (rd 8) N) fun cfg => bindP (loadB b) fun d => pureP (Dat.sized cfg d)) (words 8 cfg ++ X)
      (o.map (Dat.sized cfg)) :=
  (Runs.words h.2.1 h.2.2.1).bind (hx.map _)

theorem clampBody {sz N : Nat} {lo hi : List Nat} (h : WF (.clamp sz N b') (.clamp lo hi d')) (hx : Runs (loadB b) X o) :
    Runs (bindP (readN (rd sz) N) fun lo => bindP (readN (rd sz) N) fun hi => bindP (loadB b) fun d => pureP (Dat.clamp lo hi d))
      (words sz lo ++ words sz hi ++ X) (o.map (Dat.clamp lo hi)) := by
  rw [List.append_assoc]
  exact (Runs.words h.1 h.2.2.1).bind ((Runs.words h.2.1 h.2.2.2.1).bind (hx.map _))

theorem backupBody {sz N osz M : Nat} {lo hi df : List Nat} (h : WF (.backup sz N osz M b') (.backup lo hi df d'))
    (hx : Runs (loadB b) X o) :
    Runs (bindP (readN (rd sz) N) fun lo => bindP (readN (rd sz) N) fun hi => bindP (readN (rd osz) M) fun df =>
        bindP (loadB b) fun d => pureP (Dat.backup lo hi df d))
      (words sz lo ++ words sz hi ++ words osz df ++ X) (o.map (Dat.backup lo hi df)) := by
  obtain ⟨hl₁, hl₂, hl₃, hc₁, hc₂, hc₃, _⟩ := h
  simp only [List.append_assoc]
  exact (Runs.words hl₁ hc₁).bind ((Runs.words hl₂ hc₂).bind ((Runs.words hl₃ hc₃).bind (hx.map _)))

theorem affineBody {sz N : Nat} {m : List Nat} (h : WF (.affine sz N b') (.affine m d')) (hx : Runs (loadB b) X o) :
    Runs (bindP (readN (rd sz) (N * (N + 1))) fun m => bindP (loadB b) fun d => pureP (Dat.affine m d)) (words sz m ++ X)
      (o.map (Dat.affine m)) :=
  (Runs.words h.1 h.2.1).bind (hx.map _)

end

/-- the reader of a stack type reads a dump of well-formed content of that type back, whatever follows it -/
theorem loadB_dumpB : ∀ ty d, WF ty d → Runs (loadB ty) (dumpB ty d) (some d) :=
  WF.ind
    (array := fun M wd n cells h => .wrap (by decide) (arrayBody h.1 h.2.1 (Runs.words h.2.2.1 h.2.2.2)))
    (constant := fun sz M v h => .wrap (by decide) ((Runs.words h.1 h.2).map _))
    (identity := .wrap (by decide) (.pure _))
    (sized := fun t N b cfg d h ih => .wrap h.1 (sizedBody h ih))
    (clamp := fun sz N b lo hi d h ih => .wrap (by decide) (clampBody h ih))
    (backup := fun sz N osz M b lo hi df d h ih => .wrap (by decide) (backupBody h ih))
    (affine := fun sz N b m d h ih => .wrap (by decide) (affineBody h ih))
    (thin := fun b d _ ih => ih.map _)

theorem load_dump (ty : Ty) (d : Dat) (rest : List Byte) (h : WF ty d) :
    load ty (dump ty d ++ rest) = .ok (d, rest) :=
  Runs.wrap (by decide) (loadB_dumpB ty d h) rest

end Covfie.IO
