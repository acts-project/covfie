import CovfieModel.Model.Layout
import CovfieModel.Lemmas.Numeric
import CovfieModel.Lemmas.Radix
namespace Covfie

/-! The recursive Hilbert curve `hilR`, one level at a time: a point of the `2^(l+1)` square is a quadrant (`quad`, the digit
of weight `4^l`) and a point of the `2^l` square, which `tr` turns before the curve of the level below runs through it.
What one level does is proved for a square of any side `s` (`quad` orders the quadrants, `tr` is an isometry and an
involution, where one quadrant is left the next is entered); each fact about the curve is an induction on the order with
one of these as its step. The four quadrants are a fixed table, so what is needed of `quad` is found by evaluation.
The code's `rot` is `tr` with its arguments in another order, and its loop `hilLoop` computes `hilR` (`hilLoop_eq`). -/

theorem quad_lt : ∀ rx < 2, ∀ ry < 2, quad rx ry < 4 := by decide

/-- the quadrant bits read back off the quadrant's place in the curve order (0,0), (0,1), (1,1), (1,0) -/
theorem quad_decode : ∀ rx < 2, ∀ ry < 2, quad rx ry / 2 = rx ∧ (quad rx ry / 2 + quad rx ry) % 2 = ry := by decide

theorem quad_onto : ∀ q < 4, ∃ rx < 2, ∃ ry < 2, quad rx ry = q := by decide

theorem quad_inj {rx ry rx' ry' : Nat} (h1 : rx < 2) (h2 : ry < 2) (h3 : rx' < 2) (h4 : ry' < 2)
    (h : quad rx ry = quad rx' ry') : rx = rx' ∧ ry = ry' := by
  have a := quad_decode rx h1 ry h2
  rw [h] at a
  exact ⟨a.1.symm.trans (quad_decode rx' h3 ry' h4).1, a.2.symm.trans (quad_decode rx' h3 ry' h4).2⟩

theorem quad_succ {rx ry rx' ry' : Nat} (h1 : rx < 2) (h2 : ry < 2) (h3 : rx' < 2) (h4 : ry' < 2)
    (h : quad rx ry + 1 = quad rx' ry') : (rx = 0 ∧ ry = 0 ∧ rx' = 0 ∧ ry' = 1) ∨
      (rx = 0 ∧ ry = 1 ∧ rx' = 1 ∧ ry' = 1) ∨ (rx = 1 ∧ ry = 1 ∧ rx' = 1 ∧ ry' = 0) := by
  have a := quad_decode rx h1 ry h2
  have b := quad_decode rx' h3 ry' h4
  have hq := quad_lt rx' h3 ry' h4
  rw [← h] at b hq
  generalize quad rx ry = q at a b hq
  have : q = 0 ∨ q = 1 ∨ q = 2 := by omega
  rcases this with rfl | rfl | rfl
  · exact .inl ⟨a.1.symm, a.2.symm, b.1.symm, b.2.symm⟩
  · exact .inr (.inl ⟨a.1.symm, a.2.symm, b.1.symm, b.2.symm⟩)
  · exact .inr (.inr ⟨a.1.symm, a.2.symm, b.1.symm, b.2.symm⟩)

theorem tr_cases (rx ry : Nat) : (∀ s a b, tr s rx ry a b = (a, b)) ∨ (∀ s a b, tr s rx ry a b = (b, a)) ∨
    (∀ s a b, tr s rx ry a b = (s - 1 - b, s - 1 - a)) := by
  by_cases h1 : ry = 0
  · by_cases h2 : rx = 1
    · exact .inr (.inr fun s a b => by rw [tr, if_pos h1, if_pos h2])
    · exact .inr (.inl fun s a b => by rw [tr, if_pos h1, if_neg h2])
  · exact .inl fun s a b => by rw [tr, if_neg h1]

theorem tr_lt (s rx ry xl yl : Nat) (hx : xl < s) (hy : yl < s) :
    (tr s rx ry xl yl).1 < s ∧ (tr s rx ry xl yl).2 < s := by
  rcases tr_cases rx ry with e | e | e <;> rw [e] <;> exact ⟨by omega, by omega⟩

theorem tr_invol {s rx ry a b : Nat} (ha : a < s) (hb : b < s) :
    tr s rx ry (tr s rx ry a b).1 (tr s rx ry a b).2 = (a, b) := by
  rcases tr_cases rx ry with e | e | e <;> simp only [e]
  exact Prod.ext (by omega) (by omega)

theorem tr_inj {s rx ry a b a' b' : Nat} (ha : a < s) (hb : b < s) (ha' : a' < s) (hb' : b' < s)
    (h : (tr s rx ry a b).1 = (tr s rx ry a' b').1 ∧ (tr s rx ry a b).2 = (tr s rx ry a' b').2) :
    a = a' ∧ b = b' := by
  have e := tr_invol ha hb (rx := rx) (ry := ry)
  rw [h.1, h.2, tr_invol ha' hb'] at e
  exact ⟨(Prod.mk.inj e).1.symm, (Prod.mk.inj e).2.symm⟩

theorem adj_translate {a b a' b' : Nat} (ox oy : Nat) (h : adj a b a' b') : adj (ox + a) (oy + b) (ox + a') (oy + b') :=
  h.imp (fun ⟨e, n⟩ => ⟨by omega, by omega⟩) (fun ⟨e, n⟩ => ⟨by omega, by omega⟩)

theorem reflect_eq {s u u' : Nat} (hu : u < s) (hu' : u' < s) (h : s - 1 - u = s - 1 - u') : u = u' := by omega

theorem reflect_nb {s u u' : Nat} (hu : u < s) (hu' : u' < s)
    (h : s - 1 - u + 1 = s - 1 - u' ∨ s - 1 - u' + 1 = s - 1 - u) : u + 1 = u' ∨ u' + 1 = u := by omega

theorem adj_reflect {s a b a' b' : Nat} (ha : a < s) (hb : b < s) (ha' : a' < s) (hb' : b' < s)
    (h : adj (s - 1 - a) (s - 1 - b) (s - 1 - a') (s - 1 - b')) : adj a b a' b' :=
  h.imp (fun ⟨e, n⟩ => ⟨reflect_eq ha ha' e, reflect_nb hb hb' n⟩) (fun ⟨e, n⟩ => ⟨reflect_eq hb hb' e, reflect_nb ha ha' n⟩)

theorem tr_adj {s rx ry a b a' b' : Nat} (ha : a < s) (hb : b < s) (ha' : a' < s) (hb' : b' < s) (ox oy : Nat)
    (h : adj (tr s rx ry a b).1 (tr s rx ry a b).2 (tr s rx ry a' b').1 (tr s rx ry a' b').2) :
    adj (ox + a) (oy + b) (ox + a') (oy + b') := by
  apply adj_translate
  rcases tr_cases rx ry with e | e | e <;> simp only [e] at h
  · exact h
  · exact h.symm  -- transposing both cells swaps the two alternatives of `adj`
  · exact adj_reflect ha hb ha' hb' h.symm

/-- the place where the sub-curve of a quadrant ends is next to the place where that of the following quadrant begins -/
theorem tr_cross {s rx ry rx' ry' a b a' b' : Nat} (h1 : rx < 2) (h2 : ry < 2) (h3 : rx' < 2) (h4 : ry' < 2)
    (ha' : a' < s) (hb' : b' < s) (hq : quad rx ry + 1 = quad rx' ry')
    (hend : (tr s rx ry a b).1 + 1 = s ∧ (tr s rx ry a b).2 = 0)
    (hstart : (tr s rx' ry' a' b').1 = 0 ∧ (tr s rx' ry' a' b').2 = 0) :
    adj (rx * s + a) (ry * s + b) (rx' * s + a') (ry' * s + b') := by
  rcases quad_succ h1 h2 h3 h4 hq with ⟨rfl, rfl, rfl, rfl⟩ | ⟨rfl, rfl, rfl, rfl⟩ | ⟨rfl, rfl, rfl, rfl⟩ <;>
    simp only [tr, reduceIte, Nat.reduceEqDiff] at hend hstart
  · -- from (0, s-1) up to (0, s)
    exact .inl ⟨by omega, .inl (by omega)⟩
  · -- from (s-1, s) right to (s, s)
    exact .inr ⟨by omega, .inl (by omega)⟩
  · -- from (2s-1, s) down to (2s-1, s-1)
    exact .inl ⟨by omega, .inr (by omega)⟩

theorem hilR_succ (l x y : Nat) :
    hilR (l+1) x y = quad (x / 2^l % 2) (y / 2^l % 2) * 4^l +
      hilR l (tr (2^l) (x / 2^l % 2) (y / 2^l % 2) (x % 2^l) (y % 2^l)).1
             (tr (2^l) (x / 2^l % 2) (y / 2^l % 2) (x % 2^l) (y % 2^l)).2 := by
  rw [Nat.mul_comm, show (4:Nat)^l = 2^l * 2^l from Nat.mul_pow 2 2 l]; rfl

theorem top_bit (l x : Nat) (hx : x < 2^(l+1)) : ∃ rx xl, rx < 2 ∧ xl < 2^l ∧ x = rx * 2^l + xl :=
  ⟨x / 2^l, x % 2^l, Nat.div_lt_of_lt_mul (by omega), Nat.mod_lt _ (Nat.two_pow_pos l),
    by rw [Nat.mul_comm]; exact (Nat.div_add_mod x _).symm⟩

theorem hilR_quad (l : Nat) {rx ry xl yl : Nat} (hrx : rx < 2) (hry : ry < 2) (hxl : xl < 2^l) (hyl : yl < 2^l) :
    hilR (l+1) (rx * 2^l + xl) (ry * 2^l + yl) =
      quad rx ry * 4^l + hilR l (tr (2^l) rx ry xl yl).1 (tr (2^l) rx ry xl yl).2 := by
  rw [hilR_succ, (radix_div_mod rx hxl).1, (radix_div_mod rx hxl).2, (radix_div_mod ry hyl).1,
    (radix_div_mod ry hyl).2, Nat.mod_eq_of_lt hrx, Nat.mod_eq_of_lt hry]

theorem hilR_lt (l x y : Nat) : hilR l x y < 4^l := by
  induction l generalizing x y with
  | zero => exact Nat.zero_lt_one
  | succ l ih =>
    rw [hilR_succ, Nat.pow_succ, Nat.mul_comm (4^l)]
    exact radix_lt (quad_lt _ (Nat.mod_lt _ (by omega)) _ (Nat.mod_lt _ (by omega))) (ih _ _)

theorem hilR_inj (l x y x' y' : Nat) (hx : x < 2^l) (hy : y < 2^l) (hx' : x' < 2^l) (hy' : y' < 2^l)
    (h : hilR l x y = hilR l x' y') : x = x' ∧ y = y' := by
  induction l generalizing x y x' y' with
  | zero => omega
  | succ l ih =>
    obtain ⟨rx, xl, hrx, hxl, rfl⟩ := top_bit l x hx
    obtain ⟨ry, yl, hry, hyl, rfl⟩ := top_bit l y hy
    obtain ⟨rx', xl', hrx', hxl', rfl⟩ := top_bit l x' hx'
    obtain ⟨ry', yl', hry', hyl', rfl⟩ := top_bit l y' hy'
    rw [hilR_quad l hrx hry hxl hyl, hilR_quad l hrx' hry' hxl' hyl'] at h
    have t := tr_lt (2^l) rx ry xl yl hxl hyl
    have t' := tr_lt (2^l) rx' ry' xl' yl' hxl' hyl'
    obtain ⟨hq, he⟩ := radix_inj (hilR_lt l _ _) (hilR_lt l _ _) h
    obtain ⟨rfl, rfl⟩ := quad_inj hrx hry hrx' hry' hq
    obtain ⟨rfl, rfl⟩ := tr_inj hxl hyl hxl' hyl' (ih _ _ _ _ t.1 t.2 t'.1 t'.2 he)
    exact ⟨rfl, rfl⟩

theorem hilR_surj (l d : Nat) (hd : d < 4^l) : ∃ x y, x < 2^l ∧ y < 2^l ∧ hilR l x y = d := by
  induction l generalizing d with
  | zero => exact ⟨0, 0, Nat.one_pos, Nat.one_pos, (Nat.lt_one_iff.mp hd).symm⟩
  | succ l ih =>
    obtain ⟨rx, hrx, ry, hry, hq⟩ := quad_onto (d / 4^l) (Nat.div_lt_of_lt_mul (by omega))
    obtain ⟨u, v, hu, hv, e⟩ := ih (d % 4^l) (Nat.mod_lt _ (Nat.pow_pos (by omega)))
    have t := tr_lt (2^l) rx ry u v hu hv
    refine ⟨_, _, ?_, ?_, (hilR_quad l hrx hry t.1 t.2).trans ?_⟩
    · rw [Nat.pow_succ']; exact radix_lt hrx t.1
    · rw [Nat.pow_succ']; exact radix_lt hry t.2
    · rw [tr_invol hu hv, e, hq]; exact Nat.div_add_mod' d (4^l)

theorem hilR_origin (l : Nat) : hilR l 0 0 = 0 := by
  induction l with
  | zero => rfl
  | succ l ih => simp [hilR, tr, quad, ih]

theorem hilR_exit (l : Nat) : hilR l (2^l - 1) 0 + 1 = 4^l := by
  induction l with
  | zero => rfl
  | succ l ih =>
    have hs := Nat.two_pow_pos l
    have e := hilR_quad l (rx := 1) (ry := 0) (xl := 2^l - 1) (yl := 0) (by omega) (by omega) (by omega) hs
    simp [tr, quad] at e
    rw [show 2^(l+1) - 1 = 2^l + (2^l - 1) by omega, e]
    omega

theorem hilR_zero_iff (l x y : Nat) (hx : x < 2^l) (hy : y < 2^l) :
    hilR l x y = 0 ↔ x = 0 ∧ y = 0 :=
  ⟨fun h => hilR_inj l x y 0 0 hx hy (Nat.two_pow_pos l) (Nat.two_pow_pos l) (h.trans (hilR_origin l).symm),
   by rintro ⟨rfl, rfl⟩; exact hilR_origin l⟩

theorem hilR_last_iff (l x y : Nat) (hx : x < 2^l) (hy : y < 2^l) :
    hilR l x y + 1 = 4^l ↔ x + 1 = 2^l ∧ y = 0 := by
  have hs := Nat.two_pow_pos l
  constructor
  · intro h
    have := hilR_inj l x y (2^l - 1) 0 hx hy (by omega) hs (by have := hilR_exit l; omega)
    omega
  · rintro ⟨hx1, rfl⟩
    rw [show x = 2^l - 1 by omega]
    exact hilR_exit l

theorem hilR_adj (l x y x' y' : Nat) (hx : x < 2^l) (hy : y < 2^l) (hx' : x' < 2^l) (hy' : y' < 2^l)
    (h : hilR l x y + 1 = hilR l x' y') : adj x y x' y' := by
  induction l generalizing x y x' y' with
  | zero => simp [hilR] at h
  | succ l ih =>
    obtain ⟨rx, xl, hrx, hxl, rfl⟩ := top_bit l x hx
    obtain ⟨ry, yl, hry, hyl, rfl⟩ := top_bit l y hy
    obtain ⟨rx', xl', hrx', hxl', rfl⟩ := top_bit l x' hx'
    obtain ⟨ry', yl', hry', hyl', rfl⟩ := top_bit l y' hy'
    rw [hilR_quad l hrx hry hxl hyl, hilR_quad l hrx' hry' hxl' hyl'] at h
    have t := tr_lt (2^l) rx ry xl yl hxl hyl
    have t' := tr_lt (2^l) rx' ry' xl' yl' hxl' hyl'
    rcases radix_succ (hilR_lt l _ _) (hilR_lt l _ _) h with ⟨hq, he⟩ | ⟨hq, hE, he⟩
    · obtain ⟨rfl, rfl⟩ := quad_inj hrx hry hrx' hry' hq
      exact tr_adj hxl hyl hxl' hyl' _ _ (ih _ _ _ _ t.1 t.2 t'.1 t'.2 he)
    · exact tr_cross hrx hry hrx' hry' hxl' hyl' hq ((hilR_last_iff l _ _ t.1 t.2).mp hE)
        ((hilR_zero_iff l _ _ t'.1 t'.2).mp he)

theorem and_pow_pos (x l : Nat) : (if x &&& 2^l > 0 then 1 else 0) = x / 2^l % 2 := by
  have h : x &&& 2^l = if x.testBit l then 2^l else 0 := by
    apply Nat.eq_of_testBit_eq; intro i
    rw [Nat.testBit_and, Nat.testBit_two_pow]
    by_cases hi : l = i
    · subst hi; by_cases hb : x.testBit l <;> simp [hb]
    · by_cases hb : x.testBit l <;> simp [hb, hi]
  rw [h, Nat.testBit_eq_decide_div_mod_eq (x := x)]
  rcases Nat.mod_two_eq_zero_or_one (x / 2^l) with h | h <;> simp [h, Nat.two_pow_pos]

theorem flip_mod (s m x : Nat) (hs : 0 < s) (hx : x < s * m) :
    (s * m - 1 - x) % s = s - 1 - x % s ∧ s * m - 1 - x < s * m := by
  have h1 := Nat.div_add_mod x s
  have h2 := Nat.mod_lt x hs
  obtain ⟨t, rfl⟩ : ∃ t, m = x / s + t + 1 := ⟨m - x / s - 1, by have := Nat.div_lt_of_lt_mul hx; omega⟩
  have e : s * (x / s + t + 1) - 1 - x = t * s + (s - 1 - x % s) := by
    rw [Nat.mul_add, Nat.mul_add, Nat.mul_comm s t]; omega
  exact ⟨by rw [e]; exact (radix_div_mod t (by omega)).2, by omega⟩

/-- the code turns the whole coordinates in the `n` square, the curve only the part below `s`: they agree for every
    divisor `s` of `n` -/
theorem rot_mod (s n x y rx ry : Nat) (hs : 0 < s) (hd : s ∣ n) (hx : x < n) (hy : y < n) :
    (rot n x y rx ry).1 < n ∧ (rot n x y rx ry).2 < n ∧
      (rot n x y rx ry).1 % s = (tr s rx ry (x % s) (y % s)).1 ∧
      (rot n x y rx ry).2 % s = (tr s rx ry (x % s) (y % s)).2 := by
  obtain ⟨m, rfl⟩ := hd
  have fx := flip_mod s m x hs hx
  have fy := flip_mod s m y hs hy
  rw [show rot (s * m) x y rx ry = tr (s * m) rx ry x y from rfl]
  rcases tr_cases rx ry with e | e | e <;> rw [e, e]
  · exact ⟨hx, hy, rfl, rfl⟩
  · exact ⟨hy, hx, rfl, rfl⟩
  · exact ⟨fy.2, fx.2, fy.1, fx.1⟩

/-- entered with `s = 2^l / 2` the loop of the `2^k` curve adds to `d` the index of the low `l` bits of `(x, y)` on the curve of order `l` -/
theorem hilLoop_eq (k : Nat) : ∀ (l fuel x y d : Nat), l ≤ k → x < 2^k → y < 2^k → l < fuel →
    hilLoop (2^k) fuel (2^l / 2) x y d = d + hilR l (x % 2^l) (y % 2^l) := by
  intro l
  induction l with
  | zero =>
    intro fuel x y d _ _ _ hf
    obtain _ | f := fuel
    · omega
    · simp [hilLoop, hilR]
  | succ l ih =>
    intro fuel x y d hl hx hy hf
    obtain _ | f := fuel
    · omega
    have hs : 0 < 2^l := Nat.two_pow_pos l
    have hhalf : 2^(l+1) / 2 = 2^l := by rw [Nat.pow_succ, Nat.mul_div_cancel _ (by decide)]
    obtain ⟨r1, r2, r3, r4⟩ := rot_mod (2^l) (2^k) x y (x / 2^l % 2) (y / 2^l % 2) hs
      (Nat.pow_dvd_pow 2 (Nat.le_of_succ_le hl)) hx hy
    -- one pass: the digit is `quad` of bit `l`; the low `l` bits of the rotated point are `tr` of the low bits (`rot_mod`); the rest is `ih`
    simp only [hilLoop, hhalf, Nat.ne_of_gt hs, if_false, and_pow_pos]
    rw [ih f _ _ _ (Nat.le_of_succ_le hl) r1 r2 (by omega), r3, r4, hilR_succ, Nat.pow_succ, Nat.mod_mul_right_div_self,
      Nat.mod_mul_right_div_self, Nat.mod_mod, Nat.mod_mod, Nat.mod_mul_right_mod, Nat.mod_mul_right_mod,
      ← Nat.mul_pow, Nat.mul_comm (quad _ _), Nat.add_assoc]
    rfl

/-- the side length used by the (repaired) Hilbert layer is a power of two covering both extents -/
theorem hilN_spec (sx sy : Nat) (h : max sx sy ≤ 2^63) :
    ∃ k, hilN sx sy = 2^k ∧ sx ≤ 2^k ∧ sy ≤ 2^k ∧ k ≤ 63 ∧ (∀ m, max sx sy ≤ 2^m → k ≤ m) := by
  obtain ⟨r, e, h1, h2, h3⟩ := roundPow2_spec' 64 (max sx sy) (by omega) (by simpa using h)
  refine ⟨r, ?_, ?_, ?_, by omega, h2⟩
  · simp [hilN, e]
  · exact Nat.le_trans (Nat.le_max_left _ _) h1
  · exact Nat.le_trans (Nat.le_max_right _ _) h1

theorem hilN_order_le {sx sy k : Nat} (h : max sx sy ≤ 2^63) (hk : hilN sx sy = 2^k) : k ≤ 63 := by
  obtain ⟨k', e, _, _, h63, _⟩ := hilN_spec sx sy h
  exact (Nat.pow_right_inj (Nat.le_refl 2)).mp (hk.symm.trans e) ▸ h63

theorem hilbertIdx_eq (sx sy x y k : Nat) (hk : hilN sx sy = 2^k) (hk63 : k ≤ 63)
    (hx : x < 2^k) (hy : y < 2^k) : hilbertIdx [sx, sy] [x, y] = hilR k x y := by
  unfold hilbertIdx
  simp only [List.getD_cons_zero, List.getD_cons_succ, hk]
  rw [hilLoop_eq k k 65 x y 0 (Nat.le_refl _) hx hy (by omega)]
  simp [Nat.mod_eq_of_lt hx, Nat.mod_eq_of_lt hy]

end Covfie
