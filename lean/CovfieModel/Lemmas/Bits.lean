import CovfieModel.Model.Narrow
import CovfieModel.Lemmas.Radix
/-! Bit fields of binary32/binary64 patterns: what `s·2^c + e·2^a + m` (`c = a + b`) yields under `/` and `%` by powers of two, and
    the integer decoders `dec32`, `dec64` of `Model/Narrow.lean` in those terms (core only). -/
namespace Covfie.C07

theorem bit_fields (a b c s e m : Nat) (hc : c = a + b) (he : e < 2^b) (hm : m < 2^a) :
    (s * 2^c + e * 2^a + m) % 2^a = m ∧ (s * 2^c + e * 2^a + m) / 2^a % 2^b = e ∧ (s * 2^c + e * 2^a + m) / 2^c = s := by
  obtain ⟨d1, m1⟩ := radix_div_mod (s * 2^b + e) hm
  obtain ⟨d2, m2⟩ := radix_div_mod s he
  rw [hc, Nat.pow_add, ← Nat.div_div_eq_div_mul, Nat.mul_comm (2^a), ← Nat.mul_assoc, ← Nat.add_mul, d1]
  exact ⟨m1, m2, d2⟩

theorem bit_top (a b c s x : Nat) (hc : c = a + b) (hx : x < 2^c) :
    (s * 2^c + x) % 2^a = x % 2^a ∧ (s * 2^c + x) / 2^a % 2^b = x / 2^a % 2^b ∧ (s * 2^c + x) / 2^c = s := by
  have hlt : x / 2^a < 2^b := Nat.div_lt_of_lt_mul (by rwa [← Nat.pow_add, ← hc])
  have h := bit_fields a b c s (x / 2^a) (x % 2^a) hc hlt (Nat.mod_lt _ (Nat.two_pow_pos a))
  rw [Nat.add_assoc, Nat.div_add_mod'] at h
  exact ⟨h.1, h.2.1.trans (Nat.mod_eq_of_lt hlt).symm, h.2.2⟩

theorem bit_low (a b c x : Nat) (hc : c = a + b) : x % 2^c = (x / 2^a % 2^b) * 2^a + x % 2^a := by
  rw [hc, Nat.pow_add, Nat.mod_mul, Nat.mul_comm, Nat.add_comm]

theorem dec32_mk (e m : Nat) (he : e < 2^8) (hm : m < 2^23) :
    dec32 (e * 2^23 + m) = if e = 0 then (m, -149) else (2^23 + m, (e : Int) - 150) := by
  obtain ⟨h1, h2⟩ := radix_div_mod e hm
  simp only [dec32, h1, h2, Nat.mod_eq_of_lt he]

theorem dec64_mk (x s e m : Nat) (hx : x = s * 2^63 + e * 2^52 + m) (he : e < 2^11) (hm : m < 2^52) :
    x / 2^63 = s ∧ x / 2^52 % 2^11 = e ∧ dec64 x = if e = 0 then (m, -1074) else (2^52 + m, (e : Int) - 1075) := by
  obtain ⟨h1, h2, h3⟩ := bit_fields 52 11 63 s e m rfl he hm
  rw [← hx] at h1 h2 h3
  exact ⟨h3, h2, by simp only [dec64, h1, h2]⟩

theorem log2_mul_two_pow (M k : Nat) (hM : M ≠ 0) : Nat.log2 (M * 2^k) = Nat.log2 M + k := by
  induction k with
  | zero => simp
  | succ k ih =>
    rw [Nat.pow_succ, ← Nat.mul_assoc, Nat.mul_comm, Nat.log2_two_mul (Nat.mul_ne_zero hM (Nat.ne_of_gt (Nat.two_pow_pos k))), ih]
    rfl

theorem dec32_canon (b : Nat) :
    (dec32 b).1 < 2^24 ∧ -149 ≤ (dec32 b).2 ∧ ((dec32 b).2 = -149 ∨ 2^23 ≤ (dec32 b).1) := by
  have hm := Nat.mod_lt b (Nat.two_pow_pos 23)
  simp only [dec32]
  generalize b / 2^23 % 2^8 = e
  generalize b % 2^23 = m at *
  by_cases e0 : e = 0
  · rw [if_pos e0]; omega
  · rw [if_neg e0]; omega

/-- `dec64` yields what `narrowME` is about: a pair below the float quantum (subnormal double) or 53 bits long -/
theorem dec64_canon (b : Nat) : (dec64 b).2 < -149 ∨ 2^23 ≤ (dec64 b).1 := by
  simp only [dec64]
  generalize b / 2^52 % 2^11 = e
  by_cases e0 : e = 0
  · rw [if_pos e0]; exact Or.inl (by omega)
  · rw [if_neg e0]; exact Or.inr (by omega)

end Covfie.C07
